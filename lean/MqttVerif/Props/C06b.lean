import MqttVerif.Proofs.Sent
/-
  C06, "also across a reconnect": the store of received QoS 2 messages awaiting their PUBREL (`windowPubRx`, per address) is
  touched by nothing but the processing of received bytes -- not by connection loss, not by building the next protocol of the
  address, not by connect(), any other API call or any timer. So the PUBREL that arrives on the next connection finds the
  message stored on the previous one (`C06.pubrel_first`), and delivers it exactly once (`C06.pubrel_repeated`).
-/
namespace Mqtt.C06
open Mqtt

def RX (s : Step) : Prop := ∀ w, (s w).1.rx = w.rx

theorem rx_closed : Step.Closed RX :=
  Step.Rel.closed (R := fun w w' => w'.rx = w.rx) (fun _ => rfl) fun h1 h2 => h2.trans h1

theorem rx_mod {f : World → World} (hf : ∀ w, (f w).rx = w.rx) : RX (Step.mod f) := hf
theorem rx_setProto (p : Nat) (f : Proto → Proto) : RX (setProto p f) := rx_mod fun _ => rfl
theorem rx_emit (o : Obs) : RX (emit o) := rx_mod fun _ => rfl
theorem rx_setEnts (f : List Ent → List Ent) : RX (setEnts f) := rx_mod fun _ => rfl
theorem rx_callLater (d : Rat) (k : TKind) {c : Nat → Step} (hc : ∀ t, RX (c t)) : RX (callLater d k c) :=
  rx_closed.callLater d k (rx_mod fun _ => rfl) hc
theorem rx_newDfd {c : Nat → Step} (hc : ∀ t, RX (c t)) : RX (newDfd c) :=
  rx_closed.newDfd (fun _ => rx_mod fun _ => rfl) hc
theorem rx_makeId {c : Nat → Step} (hc : ∀ t, RX (c t)) : RX (makeId c) :=
  rx_closed.makeId (fun _ => rx_mod fun _ => rfl) hc
theorem rx_cancelTimer (t : Nat) : RX (cancelTimer t) := rx_closed.cancelTimer t fun _ => rx_mod fun _ => rfl
theorem rx_cancelAlarm (a : Option Nat) : RX (cancelAlarm a) := rx_closed.cancelAlarm a rx_cancelTimer
theorem rx_fireDfd (d : Nat) (o : Outcome) : RX (fireDfd d o) := rx_closed.fireDfd d o (rx_mod fun _ => rfl) (rx_emit _)
theorem rx_refill (p : Nat) : RX (refill p) :=
  refill_of_sent (R := fun w w' => w'.rx = w.rx) (fun _ => rfl) (fun h1 h2 => h2.trans h1) p (fun _ _ => rfl) fun _ _ _ => Sent.rx

theorem rx_connectionLost (p : Nat) (r : Err) : RX (connectionLost p r) :=
  rx_closed.connectionLost_prims r rx_cancelTimer (fun _ => rx_mod fun _ => rfl) (fun _ _ _ => rx_setEnts _) (fun _ => rx_setEnts _)
    (fun _ => rx_fireDfd _ _) (rx_callLater _ _ fun _ => rx_closed.ok) fun _ _ => rx_setProto _ _

theorem rx_fireTimer (t : Nat) : RX (fireTimer t) :=
  rx_closed.fireTimer t (rx_emit _) (fun _ => rx_mod fun _ => rfl) fun k =>
    rx_closed.runTimer k (fun _ => rx_fireDfd _ _) (fun _ _ => rx_mod fun _ => rfl) (fun _ => rx_emit _) (fun _ => rx_setProto _ _)
      (fun _ => rx_closed.loopRun
        (rx_closed.ping (rx_closed.doPingRequest (rx_emit _) fun _ => rx_callLater _ _ fun _ => rx_setProto _ _))
        (fun _ => rx_callLater _ _ fun _ => rx_setProto _ _) (rx_setProto _ _))
      (fun _ => rx_setProto _ _)
      (fun q rid => rx_mod fun w => (retryPublishW_sent q rid _ w).rx) (fun q rid => rx_mod fun w => (retryReleaseW_sent q rid _ w).rx)
      (fun q rid s => rx_mod fun w => (retrySubUnsubW_sent q rid _ s w).rx) fun _ _ => rx_emit _

theorem rx_registerSubUnsub (p : Nat) (s : Bool) (i : Nat) (bs : Bytes) : RX (registerSubUnsub p s i bs) :=
  rx_closed.registerSubUnsub s i bs rx_newDfd (fun _ _ _ _ => rx_mod fun _ => rfl) (fun _ _ _ => rx_setEnts _)
    (fun _ => rx_mod fun w => (retrySubUnsubW_sent p _ _ s w).rx) fun _ => rx_emit _

/-- **only received bytes move the inbound QoS 2 store**: every other operation -- connection loss, building the next protocol,
    connect(), disconnect(), publish(), subscribe(), unsubscribe(), the setters, every timer -- leaves it exactly as it was -/
theorem store_moves_only_on_recv (w : World) (op : Op) (hop : ∀ p d, op ≠ .recv p d) : (step w op).rx = w.rx := by
  refine Step.Rel.step (R := fun w w' => w'.rx = w.rx) ((?_ : RX op.handler) w) fun _ _ h => h
  cases op with
  | build a => exact rx_mod fun _ => rfl
  | sethandlers p m => exact rx_setProto _ _
  | connect p a =>
    exact rx_closed.apiConnect a (fun _ => rx_emit _) (rx_setProto _ _) (fun _ _ => rx_emit _) (rx_setProto _ _)
      fun _ _ => rx_callLater _ _ fun _ => rx_newDfd fun _ =>
        rx_closed.seq (rx_mod fun _ => rfl) (rx_closed.seq (rx_setProto _ _) (rx_emit _))
  | disconnect p => exact rx_closed.apiDisconnect (rx_emit _) (rx_emit _) (rx_emit _)
  | publish p t pl q r =>
    exact rx_closed.apiPublish t pl q r (fun _ => rx_emit _) (rx_emit _) (fun _ _ => rx_emit _) rx_makeId rx_newDfd fun _ _ _ _ _ =>
      rx_closed.read fun _ => rx_closed.seq (rx_mod fun _ => rfl) (rx_closed.seq (rx_setEnts _) (rx_refill p))
  | subscribe p a q => exact rx_closed.apiSubscribe a q (fun _ => rx_emit _) rx_makeId (rx_registerSubUnsub p true)
  | unsubscribe p a => exact rx_closed.apiUnsubscribe a (fun _ => rx_emit _) rx_makeId (rx_registerSubUnsub p false)
  | setwin p n => exact rx_closed.apiSetWindow n (fun _ _ => rx_setProto _ _) (rx_emit _)
  | settimeout p n => exact rx_closed.apiSetTimeout n (fun _ => rx_setProto _ _) (rx_emit _)
  | setbw p b f => exact rx_closed.apiSetBandwith b f (rx_setProto _ _) (rx_emit _)
  | jit v => exact rx_mod fun _ => rfl
  | setid v => exact rx_mod fun _ => rfl
  | recv p d => exact absurd rfl (hop p d)
  | lost p r => exact rx_connectionLost p r
  | fire t => exact rx_fireTimer t

end Mqtt.C06
