import MqttVerif.Proofs.Wire
/-
  C02 — Bytes on the wire are exactly what the MQTT 3.1 / 3.1.1 specification prescribes.
  `Spec.*` is the reference written from the OASIS text (Spec/Wire.lean); the left-hand sides are
  the transcription of pdu.py. The lemmas are in Proofs/Wire.lean.
  The session-level half ("every packet the client can emit") is C18.
-/
namespace Mqtt.C02
open Mqtt Spec

/-! ### client → broker: valid requests are encoded as the standard prescribes -/

/-- valid arguments (as `_checkConnect` admits them) give the standard's bytes -/
theorem connect (f : ConnectF) (hv : f.Valid) (hup : f.password.isSome → f.username.isSome)
    (hlen : f.body.length < 268435456) :
    ∃ bs, f.encode = .ok bs ∧ Spec.encode (specVer f.version) f.abs = some bs := by
  refine ⟨_, ConnectF.encode_eq f hv, ?_⟩
  have hfl := (f.flags_facts hv.willQoS).1
  obtain ⟨hver, hka, hcid, hwq, hwill, hwt, hwm, hu, hp⟩ := hv
  obtain ⟨htag, -, -⟩ := version_facts f.version hver
  obtain ⟨hname, hlevel⟩ := specVer_facts f.version hver
  have hupb : (f.username.isNone && (f.password.map utf8).isSome) = false := by
    cases hu' : f.username <;> cases hp' : f.password <;>
      first | rfl | exact absurd (hup (by rw [hp']; rfl)) (by rw [hu']; exact Bool.false_ne_true)
  rw [ConnectF.abs, Spec.encode, hname, hlevel]
  refine (bind_val (str_eq _ htag) _).trans ?_
  rw [if_neg (by omega), hupb, if_neg Bool.false_ne_true]
  have hW : (f.willTopic = none ∧ f.willMessage = none) ∨ ∃ t m, f.willTopic = some t ∧ f.willMessage = some m :=
    match f.willTopic, f.willMessage, hwill with
    | none, none, _ => .inl ⟨rfl, rfl⟩
    | some t, some m, _ => .inr ⟨t, m, rfl, rfl⟩
    | none, some _, h => nomatch h
    | some _, none, h => nomatch h
  rcases hW with ⟨h1, h2⟩ | ⟨t, m, h1, h2⟩
  · have hw : f.hasWill = false := by
      simp [ConnectF.hasWill, h1]
    rw [h1, h2]
    refine (bind_val (str_eq _ hcid) _).trans ?_
    refine (bind_val (optStr_eq _ hu) _).trans ?_
    refine (bind_val (optBin_eq _ hp) _).trans ?_
    refine (congrArg (Spec.fixedHeader 1 0) ?_).trans (fixedHeader_eq 1 0 f.body hlen)
    simp only [ConnectF.body, hfl, hw, Bool.false_eq_true, ↓reduceIte, Spec.bit, b2n, Option.isSome_map, u16_eq,
      List.append_assoc, List.nil_append]
  · have hw : f.hasWill = true := by
      simp [ConnectF.hasWill, h1, h2]
    rw [h1] at hwt
    rw [h2] at hwm
    rw [h1, h2]
    simp only [if_pos (Nat.le_of_lt_succ hwq)]
    refine (bind_val (str_eq _ hcid) _).trans ?_
    refine (bind_val (str_eq _ hwt) _).trans ?_
    refine (bind_val (str_eq _ hwm) _).trans ?_
    refine (bind_val (optStr_eq _ hu) _).trans ?_
    refine (bind_val (optBin_eq _ hp) _).trans ?_
    refine (congrArg (Spec.fixedHeader 1 0) ?_).trans (fixedHeader_eq 1 0 f.body hlen)
    simp only [ConnectF.body, hfl, hw, h1, h2, encOpt, ↓reduceIte, Spec.bit, b2n, Option.isSome_map, u16_eq,
      List.append_assoc]

theorem publish (v : Spec.Ver) (f : PublishF) (hv : f.Valid) (hid : ∀ i, f.msgId = some i → 1 ≤ i) :
    ∃ bs, f.encode = .ok bs ∧ Spec.encode v f.abs = some bs := by
  refine ⟨_, PublishF.encode_eq f hv, ?_⟩
  have hq := hv.qos
  have htot := hv.total
  rw [PublishF.abs, Spec.encode, str_eq _ hv.topic, (pubHeader f.retain f.dup f.qos hq).1]
  simp only [bind, Option.bind, if_neg (Nat.not_lt.2 (Nat.le_of_lt_succ hq))]
  by_cases h0 : f.qos = 0
  · obtain ⟨hm, hd⟩ := hv.noId h0
    rw [h0, if_pos rfl] at htot
    rw [hm, hd, h0]
    simp only [Option.map_none, Bool.false_eq_true, ↓reduceIte, encId, List.nil_append, List.append_nil]
    rw [fixedHeader_eq _ _ _ (by rw [List.length_append, encS_length]; omega)]
    rfl
  · obtain ⟨m, hm, hlt⟩ := hv.id h0
    obtain ⟨q, hq'⟩ : ∃ q, f.qos = q + 1 := ⟨f.qos - 1, (Nat.succ_pred_eq_of_ne_zero h0).symm⟩
    have : 1 ≤ m := Int.ofNat_le.1 (hid m hm)
    rw [if_neg h0] at htot
    rw [hm, hq']
    simp only [Option.map_some, Int.toNat_natCast, validId_of m this hlt, ↓reduceIte, u16_eq, encId, List.append_assoc]
    rw [fixedHeader_eq _ _ _ (by simp only [List.length_append, encS_length, enc16_length]; omega)]
    rfl

/-- first transmission; total length within the protocol limit -/
theorem subscribe (v : Spec.Ver) (m : Nat) (ts : List (String × Nat)) (h1 : 1 ≤ m) (hm : m < 65536)
    (ht : FiltersQValid ts) (hne : ts ≠ [])
    (hlen : ∀ bs, encTopicsQ ts = .ok bs → 2 + bs.length < 268435456) :
    ∃ bs, (SubscribeF.mk m ts).encode = .ok bs ∧ Spec.encode v (.subscribe false m ts) = some bs := by
  obtain ⟨tb, he, hs⟩ := encTopicsQ_refines ts ht
  exact ⟨_, idPayload_encode 0x82 m hm he,
    idPayload_refines v 8 m h1 hm hs (by cases ts <;> first | rfl | exact absurd rfl hne) (hlen tb he)⟩

theorem unsubscribe (v : Spec.Ver) (m : Nat) (ts : List String) (h1 : 1 ≤ m) (hm : m < 65536)
    (ht : TopicsValid ts) (hne : ts ≠ [])
    (hlen : ∀ bs, encTopics ts = .ok bs → 2 + bs.length < 268435456) :
    ∃ bs, (UnsubscribeF.mk m ts).encode = .ok bs ∧ Spec.encode v (.unsubscribe false m ts) = some bs := by
  obtain ⟨tb, he, hs⟩ := encTopics_refines ts ht
  exact ⟨_, idPayload_encode 0xA2 m hm he,
    idPayload_refines v 10 m h1 hm hs (by cases ts <;> first | rfl | exact absurd rfl hne) (hlen tb he)⟩

/-- PUBACK, PUBREC, PUBCOMP, PUBREL (first transmission), UNSUBACK -/
theorem acks (v : Spec.Ver) (m : Nat) (h1 : 1 ≤ m) (h2 : m < 65536) :
    (∃ bs, encodePUBACK (m : Int) = .ok bs ∧ Spec.encode v (.puback m) = some bs) ∧
    (∃ bs, encodePUBREC (m : Int) = .ok bs ∧ Spec.encode v (.pubrec m) = some bs) ∧
    (∃ bs, encodePUBCOMP (m : Int) = .ok bs ∧ Spec.encode v (.pubcomp m) = some bs) ∧
    (∃ bs, encodePUBREL (m : Int) = .ok bs ∧ Spec.encode v (.pubrel false m) = some bs) ∧
    (∃ bs, encodeUNSUBACK (m : Int) = .ok bs ∧ Spec.encode v (.unsuback m) = some bs) := by
  refine ⟨encodeAck_refines 4 0 m h1 h2, encodeAck_refines 5 0 m h1 h2, encodeAck_refines 7 0 m h1 h2, ?_,
    encodeAck_refines 11 0 m h1 h2⟩
  cases v <;> exact encodeAck_refines 6 2 m h1 h2

theorem fixed (v : Spec.Ver) :
    Spec.encode v .pingreq = some encodePINGREQ ∧ Spec.encode v .disconnect = some encodeDISCONNECT ∧
    Spec.encode v .pingresp = some encodePINGRES := by
  refine ⟨?_, ?_, ?_⟩ <;> simp only [Spec.encode] <;> rw [fixedHeader_eq _ _ _ (by simp)] <;> decide

/-- remaining-length field: pdu.py's loop produces Table 2.4 of the standard -/
theorem remaining_length (n : Nat) (h : n < 268435456) : Spec.remLen n = some (encodeLength n) :=
  remLen_eq n h

/-! ### retransmission: the DUP bit patched into the stored bytes -/

/-- PUBLISH: patching DUP into an encoded QoS>0 packet gives the encoding of the same packet with DUP set -/
theorem dup_publish (retain dup0 dup : Bool) (q : Nat) (hq : q = 1 ∨ q = 2) :
    (0x30 ||| b2n retain ||| (q <<< 1) ||| (b2n dup0 <<< 3)) ||| (b2n dup <<< 3) =
      0x30 ||| b2n retain ||| (q <<< 1) ||| (b2n (dup0 || dup) <<< 3) := by
  rcases hq with rfl | rfl <;> cases retain <;> cases dup0 <;> cases dup <;> decide

/-- SUBSCRIBE (0x82), UNSUBSCRIBE (0xA2), PUBREL (0x62) under 3.1: the patched byte is the 3.1
    header with DUP; under 3.1.1 the byte is never patched (see `Handlers`). -/
theorem dup_v31 (dup0 dup : Bool) :
    (((0x82 : Nat) ||| (b2n dup0 <<< 3)) ||| (b2n dup <<< 3) = 8 * 16 + (Spec.bit (dup0 || dup) * 8 + 2)) ∧
    (((0xA2 : Nat) ||| (b2n dup0 <<< 3)) ||| (b2n dup <<< 3) = 10 * 16 + (Spec.bit (dup0 || dup) * 8 + 2)) ∧
    (((0x62 : Nat) ||| (b2n dup0 <<< 3)) ||| (b2n dup <<< 3) = 6 * 16 + (Spec.bit (dup0 || dup) * 8 + 2)) := by
  cases dup0 <;> cases dup <;> decide

/-! ### broker → client: the standard's bytes decode to the standard's fields -/

theorem from_connack (v : Spec.Ver) (sp : Bool) (rc : Nat) (bs : Bytes)
    (h : Spec.encode v (.connack sp rc) = some bs) : ConnackF.decode bs = .ok ⟨sp, rc⟩ := by
  rw [(guarded_frame h).2, ConnackF.decode_frame]
  exact congrArg (fun b => Except.ok (ConnackF.mk b rc)) (b2n_and1 sp)

theorem from_acks (v : Spec.Ver) (i : Nat) (bs : Bytes) :
    (Spec.encode v (.puback i) = some bs → decodeAck bs = .ok i) ∧
    (Spec.encode v (.pubrec i) = some bs → decodeAck bs = .ok i) ∧
    (Spec.encode v (.pubcomp i) = some bs → decodeAck bs = .ok i) ∧
    (Spec.encode v (.unsuback i) = some bs → decodeAck bs = .ok i) := by
  have key : ∀ t, (if Spec.validId i then Spec.fixedHeader t 0 (Spec.u16 i) else none) = some bs →
      decodeAck bs = .ok i := by
    intro t h
    rw [ack_frame h]
    exact decodeAck_frame _ i
  exact ⟨key 4, key 5, key 7, key 11⟩

theorem from_pubrel (v : Spec.Ver) (dup : Bool) (i : Nat) (bs : Bytes)
    (h : Spec.encode v (.pubrel dup i) = some bs) : decodePUBREL bs = .ok (i, dup) := by
  have key : ∀ fl, Spec.ackFlags v dup = some fl → ((6 * 16 + fl) &&& 0x08 == 0x08) = dup := by
    intro fl hf
    cases v <;> cases dup <;> cases hf <;> decide
  cases hf : Spec.ackFlags v dup with
  | none =>
    simp only [Spec.encode, hf] at h
    cases h
  | some fl =>
    simp only [Spec.encode, hf] at h
    rw [ack_frame h, decodePUBREL_frame, key fl hf]

/-- SUBACK: granted QoS 0/1/2 come back as (q, False), the failure code 0x80 as (0, True) -/
theorem from_suback (v : Spec.Ver) (i : Nat) (codes : List Nat) (bs : Bytes)
    (h : Spec.encode v (.suback i codes) = some bs) :
    SubackF.decode bs = .ok ⟨i, codes.map (fun c => if c = 128 then (0, true) else (c, false))⟩ := by
  obtain ⟨hc, rfl⟩ := guarded_frame h
  rw [Bool.and_eq_true] at hc
  rw [u16_eq, SubackF.decode_frame, granted_of_codes codes hc.2]

theorem from_publish (v : Spec.Ver) (dup retain : Bool) (qos : Nat) (topic : String) (pid : Option Nat)
    (payload bs : Bytes) (h : Spec.encode v (.publish dup qos retain topic pid payload) = some bs) :
    PublishD.decode bs = .ok ⟨topic, payload, qos, dup, retain, pid⟩ := by
  have key : qos < 3 ∧ (qos != 0) = pid.isSome ∧
      bs = frame (3 * 16 + (b2n dup * 8 + qos * 2 + b2n retain)) (encS topic ++ (encId pid ++ payload)) := by
    rw [Spec.encode] at h
    cases hs : Spec.str topic with
    | none =>
      rw [hs] at h
      cases h
    | some tb =>
      rw [str_eq topic (str_some hs)] at h
      simp only [bind, Option.bind] at h
      rcases qos with _ | q <;> cases pid <;>
        simp only [ite_self, reduceCtorEq, Option.ite_none_left_eq_some, Option.ite_none_right_eq_some] at h
      · rw [fixedHeader_some h.2.2, List.append_nil]
        exact ⟨by decide, rfl, rfl⟩
      · rw [fixedHeader_some h.2.2, u16_eq, List.append_assoc]
        exact ⟨Nat.lt_of_not_le h.1, rfl, rfl⟩
  obtain ⟨hq, hid, rfl⟩ := key
  obtain ⟨heq, -, hd, hqq, hr⟩ := pubHeader retain dup qos hq
  rw [← heq, PublishD.decode_frame _ _ _ _ (hqq.symm ▸ hid), hd, hqq, hr]

/-! ### unrepresentable fields raise ValueError / TypeError instead of emitting bytes -/

theorem string_too_long (s : String) (h : 65535 < s.utf8ByteSize) : encodeString s = .error .value :=
  encodeString_too_long s h

/-- outside 0..65535 the store into the bytearray raises ValueError -/
theorem int16_out_of_range (v : Int) (h : ¬ (0 ≤ v ∧ v < 65536)) : encode16Int v = .error .value :=
  if_neg h

/-- unsupported payload type: TypeError (or the ValueError of an earlier field), nothing encoded -/
theorem payload_type (f : PublishF) (h : f.payload = .other) :
    ∃ e, f.encode = .error e ∧ e.isValueOrType = true := by
  have := PublishF.encode_post f
  cases he : f.encode with
  | error e => exact ⟨e, rfl, PublishF.encode_err he⟩
  | ok bs =>
    rw [he] at this
    exact absurd h this

theorem topic_too_long (f : PublishF) (h : 65535 < f.topic.utf8ByteSize) (hq : f.qos < 3) :
    f.encode = .error .value := by
  unfold PublishF.encode byte
  rw [encodeString_too_long f.topic h, if_pos (pubHeader f.retain f.dup f.qos hq).2.1]
  split <;> rfl

example : Spec.encode .v311 (.publish false 1 false "t" (some 7) [1, 2]) = some [0x32, 7, 0, 1, 0x74, 0, 7, 1, 2] := by
  decide
example : Spec.decode .v311 [0x32, 7, 0, 1, 0x74, 0, 7, 1, 2] = some (.publish false 1 false "t" (some 7) [1, 2]) := by
  decide
example : Spec.decode .v311 [0x72, 2, 0, 7] = none := by decide     -- reserved flag bits set: rejected
example : Spec.encode .v311 (.pubrel true 5) = none ∧ Spec.encode .v31 (.pubrel true 5) = some [0x6A, 2, 0, 5] := by
  decide

end Mqtt.C02
