import MqttVerif.Proofs.Local
/-
  C07 — subscribe()/unsubscribe(): one request per call, matched by id, window enforced.
-/
namespace Mqtt.C07
open Mqtt

theorem subscribe_safe {w : World} (h : WInv w) (p : Nat) (arg : SubArg) (qos : Int) (hex : Exists w p) (hfree : FreeId w) :
    (apiSubscribe p arg qos w).2 = none ∧ WInv (apiSubscribe p arg qos w).1 := apiSubscribe_inv h p arg qos hex hfree

theorem unsubscribe_safe {w : World} (h : WInv w) (p : Nat) (arg : UnsubArg) (hex : Exists w p) (hfree : FreeId w) :
    (apiUnsubscribe p arg w).2 = none ∧ WInv (apiUnsubscribe p arg w).1 := apiUnsubscribe_inv h p arg hex hfree

/-- **window enforced**: with at least `window` SUBSCRIBE requests awaiting SUBACK the call fails with MQTTWindowError and
    does nothing else (no identifier drawn, nothing written, no request registered) -/
theorem subscribe_window_full (p : Nat) (arg : SubArg) (qos : Int) (w : World) (ha : allowed w p 2 = true)
    (hfull : Ents.count w.ents (w.paddr p) .sub ≥ (w.proto p).window) :
    apiSubscribe p arg qos w = (w.emit (.retFail .window), none) := by
  simp [apiSubscribe, Step.read, ha, hfull, emit, Step.mod]

/-- the same for UNSUBSCRIBE (one identifier has been drawn by then -- doUnsubscribe calls makeId before the check) -/
theorem unsubscribe_window_full (p : Nat) (arg : UnsubArg) (w : World) (ha : allowed w p 3 = true)
    (hfull : Ents.count w.ents (w.paddr p) .unsub ≥ (w.proto p).window) :
    apiUnsubscribe p arg w =
      (({ w with nextId := scanId w 65535 w.nextId, idAllocs := w.idAllocs + 1 } : World).emit (.retFail .window), none) := by
  simp only [apiUnsubscribe, read_apply, ha, Bool.not_true, Bool.false_eq_true, ↓reduceIte]
  rw [makeId_at, read_apply]
  have : Ents.count ({ w with nextId := scanId w 65535 w.nextId, idAllocs := w.idAllocs + 1 } : World).ents
      (({ w with nextId := scanId w 65535 w.nextId, idAllocs := w.idAllocs + 1 } : World).paddr p) .unsub ≥
      (({ w with nextId := scanId w 65535 w.nextId, idAllocs := w.idAllocs + 1 } : World).proto p).window := hfull
  simp only [this, ↓reduceIte]; rfl

/-- **SUBACK / UNSUBACK bearing the identifier of a pending request**: that request's Deferred succeeds with the value the
    acknowledgement carries (granted QoS list / identifier); timer cancelled; entry removed -/
theorem ack_effect {w : World} (h : WInv w) (p : Nat) (ppr : Proto) (hpp : w.protos.get? p = some ppr)
    (hlive : ppr.lost = false) (hconn : ppr.state = .connected) (isSub : Bool) (m rid : Nat) (v : Val)
    (hl : Ents.lookup w.ents ppr.addr (if isSub then .sub else .unsub) m = some rid) :
    ∃ t d, (w.req rid).alarm = some t ∧ (w.req rid).dfd = some d ∧ d ∉ w.fired ∧ (w.req rid).msgId = m ∧
      handleSubUnsubAck p isSub m v w =
        (fireD (dropArmed w ⟨ppr.addr, if isSub then .sub else .unsub, m, rid⟩ t) d (.fired d (.ok v)), none) :=
  handleSubUnsubAck_effect h p ppr hpp hlive hconn isSub m rid v hl

/-- acknowledgements bearing other identifiers have no effect -/
theorem other_identifier (p : Nat) (isSub : Bool) (m : Nat) (v : Val) (w : World)
    (h : Ents.lookup w.ents (w.paddr p) (if isSub then .sub else .unsub) m = none) :
    handleSubUnsubAck p isSub m v w = (w, none) := handleSubUnsubAck_unknown p isSub m v w h

/-- a SUBSCRIBE/UNSUBSCRIBE request exists only with a running retry timer: it never outlives its connection
    (clause `subArmed`; connection loss fails them all, `connectionLost_inv`) -/
theorem request_is_armed {w : World} (h : WInv w) (e : Ent) (he : e ∈ w.ents) (hb : e.box = .sub ∨ e.box = .unsub) :
    (w.req e.rid).alarm ≠ none := by
  intro ha
  obtain ⟨q, _, hx, _⟩ := h.subArmed e he hb ha
  cases hx

theorem at_most_once (profile : Nat) (ops : List Op) : (firedIds (run (World.init profile) ops).log).Nodup :=
  fires_at_most_once profile ops

end Mqtt.C07
