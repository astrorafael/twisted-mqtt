import MqttVerif.Proofs.Pdu
/-
  C01 — Packet codec round trip: decode(encode(x)) == x for every packet and field value.
  Each packet's round trip is its encoder's normal form and its decoder on a frame (Proofs/Pdu.lean) put
  together. The functions are the transcription of src/mqtt/pdu.py (Model/Prim.lean, Model/Pdu.lean); the
  correspondence check ties them to the Python on every run.
-/
namespace Mqtt.C01

/-- 16-bit integers: `decode16Int ∘ encode16Int = id` on the whole domain 0..65535. -/
theorem int16_roundtrip (v : Nat) (h : v < 65536) (rest : Bytes) :
    ∃ bs, encode16Int (v : Int) = .ok bs ∧ bs.length = 2 ∧ bs.WF ∧ decode16Int (bs ++ rest) = .ok v :=
  decode16_encode16 v h rest

/-- ... and `encode16Int ∘ decode16Int = id` on byte pairs: the two are exact inverses. -/
theorem int16_inverse (a b : Nat) (ha : a < 256) (hb : b < 256) :
    encode16Int ((a * 256 + b : Nat) : Int) = .ok [a, b] :=
  encode16_decode16 a b ha hb

/-- Remaining length: `decodeLength ∘ encodeLength = id` for every n (in particular 0..268435455,
    where the field has 1..4 bytes), whatever bytes follow the field. -/
theorem remaining_length_roundtrip (n : Nat) (rest : Bytes) :
    decodeLength (encodeLength n ++ rest) = n ∧ (encodeLength n).WF ∧
      (n ≤ 268435455 → 1 ≤ (encodeLength n).length ∧ (encodeLength n).length ≤ 4) :=
  ⟨decodeLength_encodeLength n rest, encodeLength_WF n, encodeLength_length n⟩

/-- Length-prefixed UTF-8 strings of up to 65535 bytes, over the whole of Unicode (a Lean `String`
    is exactly a `str` that Python can encode as UTF-8). -/
theorem string_roundtrip (s : String) (h : s.utf8ByteSize ≤ 65535) (rest : Bytes) :
    ∃ bs, encodeString s = .ok bs ∧ bs.WF ∧ bs.length = 2 + s.utf8ByteSize ∧
      decodeString (bs ++ rest) = .ok (s, rest) :=
  decodeString_encodeString s h rest

/-- CONNECT, every valid assignment (both versions, every flag combination, any strings). -/
theorem connect (f : ConnectF) (hv : f.Valid) :
    ∃ bs, f.encode = .ok bs ∧ bs.WF ∧ ConnectD.decode bs = .ok f.norm :=
  ⟨_, ConnectF.encode_eq f hv, frame_WF (by decide) (ConnectF.body_WF f hv), ConnectD.decode_frame _ f hv⟩

theorem connack (f : ConnackF) (h : f.resultCode < 256) :
    ∃ bs, f.encode = .ok bs ∧ bs.WF ∧ ConnackF.decode bs = .ok f :=
  ⟨_, ConnackF.encode_eq f h, frame_WF (by decide) (WF_cons (b2n_lt _) (WF_cons h WF_nil)), by
    rw [ConnackF.decode_frame, b2n_and1]⟩

/-- PUBLISH: text topic equal as a string, str payload back as its UTF-8 bytes. -/
theorem publish (f : PublishF) (hv : f.Valid) (hw : f.payload.bytes.WF) :
    ∃ bs, f.encode = .ok bs ∧ bs.WF ∧ PublishD.decode bs = .ok f.norm := by
  obtain ⟨-, hlt, hd, hq, hr⟩ := pubHeader f.retain f.dup f.qos hv.qos
  have hid : (encId (f.msgId.map Int.toNat)).WF ∧ (f.qos != 0) = (f.msgId.map Int.toNat).isSome := by
    by_cases h0 : f.qos = 0
    · rw [h0, (hv.noId h0).1]
      exact ⟨WF_nil, rfl⟩
    · obtain ⟨m, hm, hlt⟩ := hv.id h0
      rw [hm]
      exact ⟨enc16_WF m hlt, by simp [h0]⟩
  refine ⟨_, PublishF.encode_eq f hv, frame_WF hlt (WF_append (encS_WF _ hv.topic) (WF_append hid.1 hw)), ?_⟩
  rw [PublishD.decode_frame _ _ _ _ (hq.symm ▸ hid.2), hd, hq, hr]
  rfl

/-- PUBACK, PUBREC, PUBCOMP, UNSUBACK (all four share `encodeAck`/`decodeAck`). -/
theorem acks (m : Nat) (hm : m < 65536) :
    (∃ bs, encodePUBACK (m : Int) = .ok bs ∧ bs.WF ∧ decodeAck bs = .ok m) ∧
    (∃ bs, encodePUBREC (m : Int) = .ok bs ∧ bs.WF ∧ decodeAck bs = .ok m) ∧
    (∃ bs, encodePUBCOMP (m : Int) = .ok bs ∧ bs.WF ∧ decodeAck bs = .ok m) ∧
    (∃ bs, encodeUNSUBACK (m : Int) = .ok bs ∧ bs.WF ∧ decodeAck bs = .ok m) :=
  ⟨decodeAck_encodeAck _ (by decide) m hm, decodeAck_encodeAck _ (by decide) m hm,
   decodeAck_encodeAck _ (by decide) m hm, decodeAck_encodeAck _ (by decide) m hm⟩

theorem pubrel (m : Nat) (hm : m < 65536) :
    ∃ bs, encodePUBREL (m : Int) = .ok bs ∧ bs.WF ∧ decodePUBREL bs = .ok (m, false) :=
  ⟨_, encodeAck_eq 0x62 m hm, frame_WF (by decide) (enc16_WF m hm), decodePUBREL_frame 0x62 m⟩

/-- SUBSCRIBE with a topic list of any length. -/
theorem subscribe (m : Nat) (ts : List (String × Nat)) (hm : m < 65536) (ht : TopicsQValid ts) :
    ∃ bs, (SubscribeF.mk m ts).encode = .ok bs ∧ bs.WF ∧ SubscribeF.decode bs = .ok (SubscribeF.mk m ts) := by
  obtain ⟨tb, he, hw, hd⟩ := encTopicsQ_ok ts ht
  exact ⟨_, idPayload_encode 0x82 m hm he, frame_WF (by decide) (WF_append (enc16_WF m hm) hw),
    idPayload_decode decTopicsQ (fun i t => SubscribeF.mk (i : Int) t) _ m tb ts (hd _ (by simp))⟩

theorem suback (m : Nat) (g : List (Nat × Bool)) (hm : m < 65536) (hg : GrantedValid g) :
    ∃ bs, (SubackF.mk m g).encode = .ok bs ∧ bs.WF ∧ SubackF.decode bs = .ok (SubackF.mk m g) := by
  obtain ⟨gb, he, hw, hmap⟩ := encGranted_ok g hg
  refine ⟨_, idPayload_encode 0x90 m hm he, frame_WF (by decide) (WF_append (enc16_WF m hm) hw), ?_⟩
  rw [SubackF.decode_frame, hmap]

theorem unsubscribe (m : Nat) (ts : List String) (hm : m < 65536) (ht : TopicsValid ts) :
    ∃ bs, (UnsubscribeF.mk m ts).encode = .ok bs ∧ bs.WF ∧
      UnsubscribeF.decode bs = .ok (UnsubscribeF.mk m ts) := by
  obtain ⟨tb, he, hw, hd⟩ := encTopics_ok ts ht
  exact ⟨_, idPayload_encode 0xA2 m hm he, frame_WF (by decide) (WF_append (enc16_WF m hm) hw),
    idPayload_decode decTopics (fun i t => UnsubscribeF.mk (i : Int) t) _ m tb ts (hd _ (by simp))⟩

/-! Non-vacuity: concrete non-trivial assignments meet the hypotheses, and the functions compute. -/

example : (PublishF.mk "a/ñ" (.str "€") 2 true true (some 65535)).Valid :=
  ⟨by decide, by decide, by decide, fun _ => ⟨65535, rfl, by decide⟩, by decide, by decide⟩

example : (PublishF.mk "t" (.bytearray [1, 2]) 1 false false (some 7)).encode
    = .ok [0x32, 7, 0, 1, 0x74, 0, 7, 1, 2] := by decide

example : PublishD.decode [0x32, 7, 0, 1, 0x74, 0, 7, 1, 2] = .ok ⟨"t", [1, 2], 1, false, false, some 7⟩ := by
  decide

example : (ConnectF.mk "c" 60 (some "w") (some "m") 2 true (some "u") (some "p") true v311).Valid :=
  ⟨by decide, by decide, by decide, by decide, by decide, by decide⟩

end Mqtt.C01
