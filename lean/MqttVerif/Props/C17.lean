import MqttVerif.Model.Step
/-
  C17 — Packet identifiers are 1..65535 and never shared by two unfinished requests.
  `makeId` (factory.py, with the in-use check of the F-14 repair): every identifier handed out is in
  range, and it is carried by no unfinished request of any address as long as a free identifier
  exists at all -- including after the 16-bit counter has wrapped.
-/
namespace Mqtt.C17
open Mqtt

theorem bumpId_eq (i : Nat) (h : i ≤ 65535) : bumpId i = i % 65535 + 1 := by
  unfold bumpId
  by_cases h1 : i = 65535
  · subst h1; decide
  · have : (i + 1) % 65536 = i + 1 := Nat.mod_eq_of_lt (by omega)
    have h2 : i % 65535 = i := Nat.mod_eq_of_lt (by omega)
    simp [this, h2]

theorem bumpId_range (i : Nat) : 1 ≤ bumpId i ∧ bumpId i ≤ 65535 := by
  unfold bumpId
  have : (i + 1) % 65536 < 65536 := Nat.mod_lt _ (by decide)
  simp only
  split <;> omega

def iterId : Nat → Nat → Nat
  | 0, cur => cur
  | k + 1, cur => iterId k (bumpId cur)

/-- the allocator walks 1..65535 cyclically -/
theorem iterId_closed (k cur : Nat) (hc : cur ≤ 65535) : iterId (k + 1) cur = (cur + k) % 65535 + 1 := by
  induction k generalizing cur with
  | zero => simp [iterId, bumpId_eq cur hc]
  | succ k ih =>
    have hb := bumpId_range cur
    rw [iterId, ih (bumpId cur) hb.2, bumpId_eq cur hc]
    omega

/-- every identifier 1..65535 is reached within 65535 steps, from any counter value -/
theorem iterId_hits (cur j : Nat) (hc : cur ≤ 65535) (hj1 : 1 ≤ j) (hj2 : j ≤ 65535) :
    ∃ k, k < 65535 ∧ iterId (k + 1) cur = j := by
  refine ⟨(j + 65535 - 1 - cur % 65535) % 65535, Nat.mod_lt _ (by decide), ?_⟩
  rw [iterId_closed _ _ hc]
  omega

/-- what the loop of `makeId` returns: the first identifier of the walk that is not in use, or -- when all
    `fuel` candidates are in use -- the last one tried -/
theorem scanId_spec (w : World) (fuel cur : Nat) (hf : 1 ≤ fuel) :
    (∃ k, k < fuel ∧ scanId w fuel cur = iterId (k + 1) cur ∧ idInUse w (iterId (k + 1) cur) = false) ∨
    ((∀ k, k < fuel → idInUse w (iterId (k + 1) cur) = true) ∧ scanId w fuel cur = iterId fuel cur) := by
  induction fuel generalizing cur with
  | zero => omega
  | succ f ih =>
    unfold scanId
    by_cases hu : idInUse w (bumpId cur) = true
    · simp only [hu, ↓reduceIte]
      by_cases hf0 : f = 0
      · subst hf0
        right
        refine ⟨fun k hk => ?_, by simp [scanId, iterId]⟩
        have : k = 0 := by omega
        subst this; simpa [iterId] using hu
      · rcases ih (bumpId cur) (by omega) with ⟨k, hk, he, hfree⟩ | ⟨hall, he⟩
        · left; exact ⟨k + 1, by omega, by simpa [iterId] using he, by simpa [iterId] using hfree⟩
        · right
          refine ⟨fun k hk => ?_, by simpa [iterId] using he⟩
          cases k with
          | zero => simpa [iterId] using hu
          | succ k => have := hall k (by omega); simpa [iterId] using this
    · left
      have hu' : idInUse w (bumpId cur) = false := by simpa using hu
      exact ⟨0, by omega, by simp [hu', iterId], by simpa [iterId] using hu'⟩

/-- the identifier `makeId` hands out is in 1..65535 -/
theorem scanId_range (w : World) (cur : Nat) : 1 ≤ scanId w 65535 cur ∧ scanId w 65535 cur ≤ 65535 := by
  have hr : ∀ k c, 1 ≤ iterId (k + 1) c ∧ iterId (k + 1) c ≤ 65535 := by
    intro k
    induction k with
    | zero => intro c; simpa [iterId] using bumpId_range c
    | succ k ih => intro c; rw [iterId]; exact ih (bumpId c)
  rcases scanId_spec w 65535 cur (by decide) with ⟨k, _, he, _⟩ | ⟨_, he⟩
  · rw [he]; exact hr k cur
  · rw [he]; exact hr 65534 cur

/-- ... and no unfinished request of the factory carries it, provided any identifier is free at all
    (i.e. fewer than 65535 requests are unfinished) -- also right after the counter has wrapped -/
theorem scanId_fresh (w : World) (cur : Nat) (hc : cur ≤ 65535)
    (hfree : ∃ j, 1 ≤ j ∧ j ≤ 65535 ∧ idInUse w j = false) :
    idInUse w (scanId w 65535 cur) = false := by
  rcases scanId_spec w 65535 cur (by decide) with ⟨k, _, he, hf⟩ | ⟨hall, _⟩
  · rw [he]; exact hf
  · obtain ⟨j, h1, h2, hj⟩ := hfree
    obtain ⟨k, hk, hit⟩ := iterId_hits cur j hc h1 h2
    have := hall k hk
    rw [hit, hj] at this
    exact absurd this (by simp)

/-- the counter itself stays in 0..65535 -/
theorem makeId_counter (w : World) (k : Nat → Step) :
    ∃ i, 1 ≤ i ∧ i ≤ 65535 ∧ i = scanId w 65535 w.nextId ∧
      makeId k w = k i { w with nextId := i, idAllocs := w.idAllocs + 1 } := by
  refine ⟨scanId w 65535 w.nextId, (scanId_range w _).1, (scanId_range w _).2, rfl, ?_⟩
  simp [makeId, Step.read, Step.seq, Step.mod]

/-! Non-vacuity: at the wrap the allocator skips identifiers in use. With requests 65535 and 1 unfinished
    and the counter at 65534, the next identifier is 2. -/
def wrapWorld : World :=
  { nextId := 65534, ents := [⟨0, .pub, 65535, 0⟩, ⟨0, .sub, 1, 1⟩] }
example : scanId wrapWorld 65535 wrapWorld.nextId = 2 := by decide
example : idInUse wrapWorld 65535 = true ∧ idInUse wrapWorld 1 = true ∧ idInUse wrapWorld 2 = false := by decide

end Mqtt.C17
