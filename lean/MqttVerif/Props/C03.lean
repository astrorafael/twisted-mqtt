import MqttVerif.Proofs.Framing
/-
  C03 — Packet framing is independent of how TCP segments the byte stream (pure part).
  `splitPackets` is the loop of MQTTBaseProtocol._accumulatePacket; `feed` one dataReceived call
  (buffer, packets handed to _processPacket so far). The session-level statement (same observable
  actions) is not proved: it also needs that no exception escapes `_processPacket` (C16).
-/
namespace Mqtt.C03

/-- For ANY byte list and ANY division into chunks the packets handed on, in order, and the bytes
    left in `_buffer` are the same as for the concatenation delivered at once. -/
theorem chunking (buf : Bytes) (done : List Bytes) (chunks : List Bytes) (hres : firstPacket buf = none) :
    chunks.foldl feed (buf, done) = feed (buf, done) chunks.flatten :=
  feed_chunks buf done chunks hres

/-- the state every call leaves behind satisfies the hypothesis of `chunking` -/
theorem residual (buf : Bytes) : firstPacket (splitPackets buf).2 = none :=
  splitPackets_residual buf

/-- nothing is dropped, duplicated, merged, truncated or reordered: the packets handed on followed
    by the buffered remainder are exactly the bytes received -/
theorem conservation (buf : Bytes) : (splitPackets buf).1.flatten ++ (splitPackets buf).2 = buf :=
  splitPackets_concat buf

/-- a complete first packet is not changed by bytes that arrive later -/
theorem stability (buf c p r : Bytes) (h : firstPacket buf = some (p, r)) :
    firstPacket (buf ++ c) = some (p, r ++ c) :=
  firstPacket_append buf c p r h

/-- every packet laid out as the standard prescribes (first byte, remaining length n, n bytes) is cut
    out exactly, whatever follows -/
theorem well_formed (h n : Nat) (body rest : Bytes) (hb : body.length = n) :
    firstPacket ([h] ++ encodeLength n ++ body ++ rest) = some ([h] ++ encodeLength n ++ body, rest) :=
  hb ▸ firstPacket_frame h body rest

/-! Non-vacuity: two packets cut byte by byte -/
example : [[0x40], [2], [0], [7, 0xD0], [0]].foldl feed ([], []) = ([], [[0x40, 2, 0, 7], [0xD0, 0]]) := by decide
example : firstPacket [0x30, 0x80] = none := by decide

end Mqtt.C03
