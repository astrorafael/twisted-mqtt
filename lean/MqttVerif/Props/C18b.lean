import MqttVerif.Proofs.FirstConnect
import MqttVerif.Props.C15b
import MqttVerif.Props.C19b
/-
  C18 over histories: "nothing is written before connect() is called, the first packet is CONNECT".  No invariant and no assumption on
  the environment is needed: the statements hold for every list of operations from a fresh factory, including operations on protocol
  numbers that were never built, connection losses reported twice, bytes received on idle protocols and timers fired in any order.
-/
namespace Mqtt.C18

/-- **the first packet on every transport is a CONNECT**: after any history, for every protocol object, either nothing has been
    written to its transport or the first packet written there is a CONNECT -/
theorem first_packet_is_connect (profile : Nat) (ops : List Op) (p : Nat) :
    NoW p (run (World.init profile) ops).log ∨ FirstC p (run (World.init profile) ops).log :=
  (started_run p ops _ (started_init p profile)).imp (fun h => h.2) id

/-- **nothing is written before connect() is called**: a history without a `connect()` on protocol `p` writes nothing to `p`'s
    transport -- whatever is called on `p`, received on it, reported lost, or run by the reactor -- and leaves `p` idle -/
theorem nothing_before_connect (profile : Nat) (ops : List Op) (p : Nat) (h : ∀ a, Op.connect p a ∉ ops) :
    NoW p (run (World.init profile) ops).log ∧ ((run (World.init profile) ops).proto p).state = .idle := by
  obtain ⟨hc, hn⟩ := quiet_until_connect p ops _ (clean_init p profile).1 (clean_init p profile).2 h
  exact ⟨hn, hc.idle⟩

/-- one operation, from a state where `p` has not started: only `connect()` on `p` writes to `p`'s transport, and what it writes
    first is the CONNECT -/
theorem only_connect_starts (p : Nat) (w : World) (hc : Clean p w) (op : Op) :
    ∃ l, (step w op).log = w.log ++ l ∧ ((Clean p (step w op) ∧ NoW p l) ∨ ((∃ a, op = .connect p a) ∧ FirstC p l)) := clean_step p w hc op

/-- disconnect(), when the state honours it, writes the DISCONNECT and asks the transport to close -- nothing else, and the state object stays
    (the transport reports the loss later) -/
theorem disconnect_writes_and_closes (w : World) (p : Nat) (h : allowed w p 1 = true) :
    apiDisconnect p w = ({ w with log := w.log ++ [.write p encodeDISCONNECT, .close p, .retNone] }, none) := by
  simp [apiDisconnect, Step.read, h, Step.seq, write, emit, Step.mod, World.emit]

/-- a protocol whose loss has been reported is clean: idle, and no pending timer is one of its keepalive or retransmission callbacks -/
theorem lost_is_clean {w : World} (hw : WInv w) (p : Nat) (pr : Proto) (hpp : w.protos.get? p = some pr) (hl : pr.lost = true) : Clean p w := by
  obtain ⟨hi, _, _⟩ := hw.lostIdle p pr hpp hl
  refine ⟨by simp only [World.proto, hpp, Option.getD_some]; exact hi, fun t tm ht hs hk => ?_⟩
  obtain ⟨hretry, hloop, halarm⟩ := lost_has_no_timers hw p pr hpp hl t
  have hpend : Pending w t tm.kind := ⟨tm, ht, hs, rfl⟩
  generalize tm.kind = k at hk hpend
  cases k with
  | connack cr => exact hk
  | onDisc q r => exact hk
  | pingLoop q =>
    cases hk
    exact hloop hpend
  | pingAlarm q =>
    cases hk
    exact halarm hpend
  | retry q rid =>
    cases hk
    exact hretry rid hpend

/-- **nothing at all is written once the connection has been reported lost** -- in any continuation, of any length, whether or not it
    respects `Env` (bytes still arriving, the loss reported again, API calls on the dead protocol, timers of any kind): as long as
    `connect()` is not called on that protocol object again (that is known finding KF-2), nothing is written to its transport -/
theorem silent_after_loss {w : World} (hw : WInv w) (p : Nat) (pr : Proto) (hpp : w.protos.get? p = some pr) (hl : pr.lost = true)
    (ops : List Op) (hno : ∀ a, Op.connect p a ∉ ops) : ∃ l, (run w ops).log = w.log ++ l ∧ NoW p l := by
  obtain ⟨l, h1, h2, _⟩ := quiet_delta p ops w (lost_is_clean hw p pr hpp hl) hno
  exact ⟨l, h1, h2⟩

instance (p : Nat) (l : List Obs) : Decidable (NoW p l) := by unfold NoW; infer_instance
/-- not vacuous: in the keepalive demonstration history protocol 0 has written (so its first packet is a CONNECT), while a second
    protocol that is built, configured, fed bytes and reported lost without connect() has written nothing -/
example : ¬ NoW 0 (run (World.init 3) C15.kaDemo).log
    ∧ NoW 1 (run (World.init 3) (C15.kaDemo ++ [.build 1, .sethandlers 1 7, .publish 1 (.str "a") (.bytearray [1]) 1 false,
        .recv 1 [0x20, 2, 0, 0], .recv 1 [0xD0, 0], .lost 1 .connLost, .fire 0, .fire 1])).log := by decide +kernel

/-- not vacuous, and outside `Env`: after protocol 1 of the two-address demonstration has been reported lost, bytes still arriving for
    it, a second loss report, API calls on it and every timer of the table leave its transport untouched -/
def lostOne : List Op := C19.twoUp ++ C19.onOne.take 5
theorem lostOne_env : EnvRun (World.init 3) lostOne := by
  have h := (C19.envRun_append _ _ _ C19.twoUp_env).1
  rw [← List.take_append_drop 5 C19.onOne, ← List.append_assoc] at h
  exact (C19.envRun_append _ _ _ h).1
example : ∃ l, (run (run (World.init 3) lostOne) [.recv 1 [0x20, 2, 0, 0], .recv 1 [0x32, 6, 0, 1, 0x61, 0, 7, 0x78], .lost 1 .connLost,
      .publish 1 (.str "a") (.bytearray [1]) 1 false, .disconnect 1, .fire 0, .fire 1, .fire 2, .fire 3, .fire 4, .fire 5, .fire 6, .fire 7]).log
      = (run (World.init 3) lostOne).log ++ l ∧ NoW 1 l := by
  have hw := reachable_inv 3 (Or.inr (Or.inr rfl)) lostOne lostOne_env
  obtain ⟨pr, hpp, hl⟩ : ∃ pr, (run (World.init 3) lostOne).protos.get? 1 = some pr ∧ pr.lost = true := by decide +kernel
  exact silent_after_loss hw 1 pr hpp hl _ (fun a h => by simp at h)

end Mqtt.C18
