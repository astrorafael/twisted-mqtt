import MqttVerif.Model.Step
import Mathlib.Tactic.Linarith
import Mathlib.Tactic.Positivity
import Mathlib.Tactic.Ring
/-
  C08 — retransmission: the arithmetic of the retry schedule (interval.py) and of the timers that
  `_retryPublish/_retryRelease/_retrySubscribe/_retryUnsubscribe` arm.
  The history-level clauses (a retransmission on every expiry, DUP, same content, nothing repeated
  otherwise) are decided by the monitor on the real code and by the correspondence with the model.
-/
namespace Mqtt.C08
open Mqtt

/-! ### the virtual reactor's clock grid -/

theorem tickRate_pos : (0 : Rat) < (tickRate : Rat) := by unfold tickRate; norm_num

theorem ticks_mono (a b : Rat) (h : a ≤ b) : ticks a ≤ ticks b := by
  unfold ticks
  have h1 : a * (tickRate : Rat) + 1 / 2 ≤ b * (tickRate : Rat) + 1 / 2 :=
    add_le_add_left (mul_le_mul_of_nonneg_right h tickRate_pos.le) _
  exact Int.toNat_le_toNat (Rat.floor_monotone h1)

theorem floor_eq_of (x : Rat) (m : Int) (h1 : (m : Rat) ≤ x) (h2 : x < ((m + 1 : Int) : Rat)) : x.floor = m := by
  have a : m ≤ x.floor := Rat.le_floor_iff.mpr h1
  have b : x.floor < m + 1 := Rat.floor_lt_iff.mpr h2
  omega

/-- whole seconds are exact on the grid -/
theorem ticks_nat (n : Nat) : ticks (n : Rat) = n * tickRate := by
  unfold ticks
  have : ((n : Rat) * (tickRate : Rat) + 1 / 2).floor = ((n * tickRate : Nat) : Int) := by
    apply floor_eq_of
    · push_cast; linarith
    · push_cast; linarith
  rw [this]; exact Int.toNat_natCast _

/-- a delay of at least `n` whole seconds is at least `n` seconds on the grid -/
theorem ticks_ge (n : Nat) (d : Rat) (h : (n : Rat) ≤ d) : n * tickRate ≤ ticks d := by
  rw [← ticks_nat]; exact ticks_mono _ _ h

/-! ### Interval (SUBSCRIBE, UNSUBSCRIBE, PUBREL): doubling, capped -/

/-- Interval.__call__ on the stored value -/
def ivNext (initial v : Nat) : Nat := min (v * Config.intervalFactor) (max initial Config.intervalMaxDelay)

theorem le_ivNext {a initial v : Nat} (h1 : a ≤ v) (h2 : a ≤ max initial Config.intervalMaxDelay) : a ≤ ivNext initial v :=
  Nat.le_min.mpr ⟨Nat.le_trans h1 (Nat.le_mul_of_pos_right v (by decide)), h2⟩

/-- every delay is at least the initial timeout the request was created with -/
theorem interval_ge_initial (initial v : Nat) (h : initial ≤ v) : initial ≤ ivNext initial v :=
  le_ivNext h (Nat.le_max_left ..)

/-- and the delays never decrease (the value stays under its cap) -/
theorem interval_mono (initial v : Nat) (h : v ≤ max initial Config.intervalMaxDelay) : v ≤ ivNext initial v :=
  le_ivNext (Nat.le_refl v) h

theorem interval_capped (initial v : Nat) : ivNext initial v ≤ max initial Config.intervalMaxDelay := by
  unfold ivNext; omega

/-! ### IntervalLinear (PUBLISH): initial + k * size / bandwith, k multiplied by `factor` each time -/

/-- the delay net of jitter -/
def linDelay (initial : Nat) (k bw : Rat) (size : Nat) : Rat := (initial : Rat) + (k * size) / bw

theorem linear_ge_initial (initial size : Nat) (k bw : Rat) (hk : 0 ≤ k) (hb : 0 < bw) :
    (initial : Rat) ≤ linDelay initial k bw size := by
  unfold linDelay
  exact le_add_of_nonneg_right (div_nonneg (mul_nonneg hk (Nat.cast_nonneg _)) hb.le)

/-- with factor >= 1 the gaps of a PUBLISH (net of jitter) do not shrink from one retry to the next -/
theorem linear_mono (initial size : Nat) (k bw f : Rat) (hk : 0 ≤ k) (hb : 0 < bw) (hf : 1 ≤ f) :
    linDelay initial k bw size ≤ linDelay initial (k * f) bw size := by
  unfold linDelay
  have h1 : k * size ≤ k * f * size := mul_le_mul_of_nonneg_right (le_mul_of_one_le_right hk hf) (Nat.cast_nonneg _)
  exact add_le_add_right (div_le_div_of_nonneg_right h1 hb.le) _

/-- k stays non-negative (it starts at 1 and is multiplied by a positive factor) -/
theorem k_nonneg (k f : Rat) (hk : 0 ≤ k) (hf : 0 < f) : 0 ≤ k * f := by positivity

/-- KNOWN FINDING KF-3 (F-11): `setBandwith` accepts 0 < factor < 1 (every positive value, as C20 demands), and
    then the gaps DO shrink: the full statement "for a PUBLISH the gaps do not shrink" is false of the code. -/
theorem linear_shrinks_counterexample :
    ¬ (linDelay 4 1 1 20 ≤ linDelay 4 (1 * (1 / 2)) 1 20) := by
  unfold linDelay; norm_num

/-! ### the timers armed by the retransmission helpers -/

/-- the timer `_retryPublish` arms is due no earlier than the request's initial timeout after now -/
theorem publish_timer_spacing (r : Req) (now : Nat) (jitter : Rat) (size : Nat)
    (hk : 0 ≤ r.ivK) (hb : 0 < r.bandwith) (hj : 0 ≤ jitter) :
    now + r.initial * tickRate ≤ now + ticks ((r.initial : Rat) + (r.ivK * size) / r.bandwith + jitter) := by
  have h := linear_ge_initial r.initial size r.ivK r.bandwith hk hb
  unfold linDelay at h
  have := ticks_ge r.initial ((r.initial : Rat) + (r.ivK * size) / r.bandwith + jitter) (by linarith)
  omega

/-- the timer `_retryRelease/_retrySubscribe/_retryUnsubscribe` arms: at least the initial timeout -/
theorem interval_timer_spacing (r : Req) (now : Nat) (jitter extra : Rat) (hi : r.initial ≤ r.ivValue)
    (hj : 0 ≤ jitter) (he : 0 ≤ extra) :
    now + r.initial * tickRate ≤ now + ticks (((ivNext r.initial r.ivValue : Nat) : Rat) + jitter + extra) := by
  have h := interval_ge_initial r.initial r.ivValue hi
  have h' : (r.initial : Rat) ≤ ((ivNext r.initial r.ivValue : Nat) : Rat) + jitter + extra := by
    have : (r.initial : Rat) ≤ ((ivNext r.initial r.ivValue : Nat) : Rat) := by exact_mod_cast h
    linarith
  have := ticks_ge r.initial _ h'
  omega

example : ivNext 4 4 = 8 ∧ ivNext 4 512 = 1024 ∧ ivNext 4 1024 = 1024 ∧ ivNext 2000 2000 = 2000 := by decide
example : ticks (4 + 1 / 2 : Rat) = 4718592 := by
  have : ((4 + 1 / 2 : Rat) * (tickRate : Rat) + 1 / 2).floor = 4718592 := by
    apply floor_eq_of <;> (unfold tickRate; norm_num)
  unfold ticks; rw [this]; rfl

end Mqtt.C08
