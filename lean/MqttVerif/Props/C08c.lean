import MqttVerif.Proofs.Rearm
import MqttVerif.Proofs.EnvOk
import MqttVerif.Props.C19b
/-
  C08 ("nothing is repeated except on expiry or resumption") and C09 ("never written again"), over histories, read off the table of
  DelayedCalls: every transmission of a request with an identifier creates a retry timer `.retry p rid` (`C08.publish_transmission_arms` and its two companions), the
  table only grows, so the retry timers an operation adds are the requests it transmits.
-/
namespace Mqtt.C08

theorem tf_init (profile : Nat) : TF (World.init profile) := fun t tm h => by simp [World.init, Dict.get?] at h
theorem run_tf (ops : List Op) (w : World) (h : TF w) : TF (run w ops) :=
  run_invariant TF (fun w op h => (step_timers_keep w h op).tf) ops w h

/-- a DelayedCall below the counter was not created later: it was there all along, with the same callback -/
theorem run_back (ops : List Op) : ∀ (w : World), TF w → ∀ t tm, t < w.nextTimer → (run w ops).timers.get? t = some tm →
    ∃ tm0, w.timers.get? t = some tm0 ∧ tm0.kind = tm.kind := by
  induction ops with
  | nil => intro w _ t tm _ ht; exact ⟨tm, ht, rfl⟩
  | cons op r ih =>
    intro w h t tm hlt ht
    have ra := ra_step w h op
    obtain ⟨tm1, h1, k1⟩ := ih (step w op) ra.keep.tf t tm (Nat.lt_of_lt_of_le hlt ra.nt) ht
    obtain ⟨tm0, h0, k0⟩ := ra.back t tm1 hlt h1
    exact ⟨tm0, h0, k0.trans k1⟩

theorem expiring_some {w : World} {op : Op} {rid : Nat} (h : op.expiring w = some rid) :
    ∃ t q, op = .fire t ∧ Pending w t (.retry q rid) := by
  cases op <;> simp only [Op.expiring] at h <;> try cases h
  rename_i t
  split at h
  · rename_i tm ht
    split at h
    · rename_i q r hk
      split at h
      · rename_i hp
        injection h with h; subst h
        exact ⟨t, q, rfl, tm, ht, hp, hk⟩
      · cases h
    · cases h
  · cases h

/-- **re-arming needs a reason** (any history, no assumption on the environment): a retry timer that an operation adds is for a request
    that was created during the operation, or was waiting on the queue when it started (first transmissions); or that the factory held
    without a timer while received bytes are processed (resumption after CONNACK); or whose own pending retry timer the operation runs
    (expiry) -/
theorem rearm_needs_reason (profile : Nat) (ops : List Op) (op : Op) (t : Nat) (tm : Timer) (q rid : Nat)
    (hnew : (run (World.init profile) ops).nextTimer ≤ t) (ht : (step (run (World.init profile) ops) op).timers.get? t = some tm)
    (hk : tm.kind = .retry q rid) :
    (run (World.init profile) ops).nextReq ≤ rid ∨ queuedIn (run (World.init profile) ops) rid ∨
    (op.isRecv ∧ ((run (World.init profile) ops).req rid).alarm = none ∧ hasEnt (run (World.init profile) ops) rid) ∨
    (∃ t0 q0, op = .fire t0 ∧ Pending (run (World.init profile) ops) t0 (.retry q0 rid)) := by
  have := (ra_step _ (run_tf ops _ (tf_init profile)) op).new t tm hnew ht q rid hk
  rcases this with h | h | h | h
  · exact Or.inl h
  · exact Or.inr (Or.inl h)
  · exact Or.inr (Or.inr (Or.inl h))
  · exact Or.inr (Or.inr (Or.inr (expiring_some h)))

/-- no timer is ever re-programmed and none appears below the counter: the retry timers of a state are a history -/
theorem retry_timers_are_a_history (profile : Nat) (ops : List Op) (op : Op) (t : Nat) (tm : Timer)
    (ht : (run (World.init profile) ops).timers.get? t = some tm) :
    ∃ tm', (step (run (World.init profile) ops) op).timers.get? t = some tm' ∧ tm'.due = tm.due ∧ tm'.kind = tm.kind :=
  (ra_step _ (run_tf ops _ (tf_init profile)) op).keep.keep t tm ht

/-- **an armed request is re-armed by the expiry of its own timer only**: a request that is in flight (held, not queued) with a timer
    gets a new retry timer only from the operation that runs that request's pending retry timer -/
theorem armed_rearmed_only_on_expiry (profile : Nat) (ops : List Op) (op : Op) (t : Nat) (tm : Timer) (q rid : Nat)
    (hold : rid < (run (World.init profile) ops).nextReq) (hnq : ¬ queuedIn (run (World.init profile) ops) rid)
    (harm : ((run (World.init profile) ops).req rid).alarm ≠ none)
    (hnew : (run (World.init profile) ops).nextTimer ≤ t) (ht : (step (run (World.init profile) ops) op).timers.get? t = some tm)
    (hk : tm.kind = .retry q rid) :
    ∃ t0 q0, op = .fire t0 ∧ Pending (run (World.init profile) ops) t0 (.retry q0 rid) := by
  rcases rearm_needs_reason profile ops op t tm q rid hnew ht hk with h | h | h | h
  · omega
  · exact absurd h hnq
  · exact absurd h.2.1 harm
  · exact h

/-- an API call, a keepalive or handshake timer, a loss report: anything that neither processes received bytes nor runs a retry timer
    transmits requests for the first time only -/
theorem first_transmissions_only (profile : Nat) (ops : List Op) (op : Op) (hr : ¬ op.isRecv)
    (hf : ∀ t0 q0 r0, op = .fire t0 → ¬ Pending (run (World.init profile) ops) t0 (.retry q0 r0))
    (t : Nat) (tm : Timer) (q rid : Nat)
    (hnew : (run (World.init profile) ops).nextTimer ≤ t) (ht : (step (run (World.init profile) ops) op).timers.get? t = some tm)
    (hk : tm.kind = .retry q rid) :
    (run (World.init profile) ops).nextReq ≤ rid ∨ queuedIn (run (World.init profile) ops) rid := by
  rcases rearm_needs_reason profile ops op t tm q rid hnew ht hk with h | h | h | ⟨t0, q0, h1, h2⟩
  · exact Or.inl h
  · exact Or.inr h
  · exact absurd h.1 hr
  · exact absurd h2 (hf t0 q0 rid h1)

/-- each call of a retransmission helper on a request with an identifier adds one pending retry timer for that request, numbered
    by the counter (so the timers counted above are the transmissions) -/
theorem publish_transmission_arms (p rid : Nat) (dup : Bool) (w : World) (hm : (w.req rid).msgId ≠ 0) :
    ∃ due, (retryPublishW p rid dup w).timers = w.timers.set w.nextTimer ⟨due, .retry p rid, .pending⟩ ∧
      (retryPublishW p rid dup w).nextTimer = w.nextTimer + 1 := by
  simp only [retryPublishW, req_setReq, ↓reduceIte, ne_eq, hm, not_false_eq_true]
  exact ⟨_, rfl, rfl⟩
theorem release_transmission_arms (p rid : Nat) (dup : Bool) (w : World) :
    ∃ due, (retryReleaseW p rid dup w).timers = w.timers.set w.nextTimer ⟨due, .retry p rid, .pending⟩ ∧
      (retryReleaseW p rid dup w).nextTimer = w.nextTimer + 1 := by
  simp only [retryReleaseW]
  split <;> exact ⟨_, rfl, rfl⟩
theorem subunsub_transmission_arms (p rid : Nat) (dup s : Bool) (w : World) :
    ∃ due, (retrySubUnsubW p rid dup s w).timers = w.timers.set w.nextTimer ⟨due, .retry p rid, .pending⟩ ∧
      (retrySubUnsubW p rid dup s w).nextTimer = w.nextTimer + 1 := by
  simp only [retrySubUnsubW]
  split <;> exact ⟨_, rfl, rfl⟩

/-- not vacuous: in the demonstration history of C19b request 0 (QoS 1, in flight, timer 4) is re-armed with timer 5 when timer 4 runs ... -/
example : (run (World.init 3) C19.twoUp).nextTimer = 5 ∧ ¬ queuedIn (run (World.init 3) C19.twoUp) 0
    ∧ ((run (World.init 3) C19.twoUp).req 0).alarm = some 4
    ∧ ((step (run (World.init 3) C19.twoUp) (.fire 4)).timers.get? 5).map (fun t => (t.kind, t.status)) = some (.retry 0 0, .pending) := by decide +kernel
/-- ... and an API call in between adds a retry timer only for what it creates (here request 2, a SUBSCRIBE) -/
example : (run (World.init 3) C19.twoUp).nextReq = 2
    ∧ ((step (run (World.init 3) C19.twoUp) (.subscribe 0 (.str "t") 1)).timers.get? 5).map (fun t => (t.kind, t.status)) = some (.retry 0 2, .pending) := by decide +kernel

end Mqtt.C08

namespace Mqtt.C09

/-- request `rid` was created and no container of the factory holds it any more: acknowledged, failed, or dropped -/
def Gone (w : World) (rid : Nat) : Prop := rid < w.nextReq ∧ ¬ hasEnt w rid

/-- one operation: a request that is gone stays gone and gets no retry timer -/
theorem gone_step {w : World} (hw : WInv w) {rid : Nat} (hg : Gone w rid) (op : Op) :
    Gone (step w op) rid ∧ ∀ t tm q, w.nextTimer ≤ t → (step w op).timers.get? t = some tm → tm.kind ≠ .retry q rid := by
  have ra := ra_step w hw.timerFresh op
  refine ⟨⟨Nat.lt_of_lt_of_le hg.1 ra.nr, fun ⟨e, he, hr⟩ => hg.2 ?_⟩, fun t tm q hle ht hk => ?_⟩
  · have := ra.old e he (by rw [hr]; exact hg.1)
    rw [hr] at this; exact this
  · rcases ra.new t tm hle ht q rid hk with h | ⟨e, he, _, hr⟩ | ⟨_, _, h⟩ | h
    · exact absurd hg.1 (by omega)
    · exact hg.2 ⟨e, he, hr⟩
    · exact hg.2 h
    · obtain ⟨t0, q0, _, hp⟩ := C08.expiring_some h
      obtain ⟨e, he, hr, _⟩ := hw.noStale t0 q0 rid hp
      exact hg.2 ⟨e, he, hr⟩

/-- **never written again**: once a request has left the factory's containers, no operation of any continuation creates a retry timer
    for it -- it is never transmitted again, whatever the broker sends, whichever timers run, however often the connection is lost and
    made again -/
theorem gone_never_retransmitted : ∀ (ops : List Op) (w : World), WInv w → EnvRun w ops → ∀ rid, Gone w rid →
    Gone (run w ops) rid ∧ ∀ t tm q, w.nextTimer ≤ t → (run w ops).timers.get? t = some tm → tm.kind ≠ .retry q rid := by
  intro ops w0 hw0 henv rid hg0
  -- carried along: the request is gone, and no retry timer at or above the counter of the start is for it
  refine (run_induction (G := EnvRun) (I := fun w => WInv w ∧ Gone w rid ∧
    ∀ t tm q, w0.nextTimer ≤ t → w.timers.get? t = some tm → tm.kind ≠ .retry q rid) ?_ ops w0
    ⟨hw0, hg0, fun t tm q hle ht => absurd (hw0.timerFresh t tm ht) (by omega)⟩ henv).2
  intro w op r ⟨hw, hg, hn⟩ hE
  obtain ⟨g1, n1⟩ := gone_step hw hg op
  refine ⟨⟨step_inv hw op hE.1, g1, fun t tm q hle ht hk => ?_⟩, hE.2⟩
  by_cases hlt : t < w.nextTimer
  · -- the timer was there before the operation, with the same callback
    obtain ⟨tm0, h0, k0⟩ := (ra_step w hw.timerFresh op).back t tm hlt ht
    exact hn t tm0 q hle h0 (k0.trans hk)
  · exact n1 t tm q (by omega) ht hk

instance (w : World) (rid : Nat) : Decidable (Gone w rid) := by unfold Gone; infer_instance
/-- not vacuous: the PUBACK for identifier 1 makes request 0 of the demonstration history gone (and launches the queued request 1) -/
example : ¬ Gone (run (World.init 3) C19.twoUp) 0 ∧ Gone (run (World.init 3) (C19.twoUp ++ [.recv 0 [0x40, 2, 0, 1]])) 0
    ∧ ¬ Gone (run (World.init 3) (C19.twoUp ++ [.recv 0 [0x40, 2, 0, 1]])) 1 := by decide +kernel

/-- and the hypotheses of `gone_never_retransmitted` are met there: whatever follows -- here the other address's traffic, a retry
    timer of address 0, a loss and a reconnection with the session kept -- adds no retry timer for request 0 -/
def afterAck : List Op := C19.onOne ++ [.fire 5, .lost 0 .connLost, .build 0, .connect 3 (cargs 0 false), .recv 3 [0x20, 2, 1, 0]]
theorem afterAck_env : EnvRun (World.init 3) (C19.twoUp ++ [.recv 0 [0x40, 2, 0, 1]] ++ afterAck) := envRunOk_sound _ _ (by decide +kernel)
example : ∀ t tm q, (run (World.init 3) (C19.twoUp ++ [.recv 0 [0x40, 2, 0, 1]])).nextTimer ≤ t →
    (run (World.init 3) (C19.twoUp ++ [.recv 0 [0x40, 2, 0, 1]] ++ afterAck)).timers.get? t = some tm → tm.kind ≠ .retry q 0 := by
  obtain ⟨e1, e2⟩ := C19.envRun_append _ _ _ afterAck_env
  have hw := reachable_inv 3 (Or.inr (Or.inr rfl)) _ e1
  have := (gone_never_retransmitted afterAck _ hw e2 0 (by decide +kernel)).2
  intro t tm q hle ht
  refine this t tm q hle ?_
  rw [← ht]
  show (List.foldl step (List.foldl step _ _) _).timers.get? t = (List.foldl step _ _).timers.get? t
  rw [← List.foldl_append]

end Mqtt.C09
