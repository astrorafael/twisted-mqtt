import MqttVerif.Props.C19b
/-
  C19 over histories, object layer: any history that is foreign to address `A` and respects `Env` leaves every request object that `A`'s
  dictionaries hold -- and the Deferred each of them will fire -- exactly as it was, however long the history.
-/
namespace Mqtt.C19
open Mqtt

theorem free_step_requests {w : World} {op : Op} (hop : op.proto? w = none) : (step w op).reqs = w.reqs ∧ (step w op).ents = w.ents := by
  have c := Step.Rel.closed (R := fun w w' : World => w'.reqs = w.reqs ∧ w'.ents = w.ents) (fun _ => ⟨rfl, rfl⟩)
    (fun h1 h2 => ⟨h2.1.trans h1.1, h2.2.trans h1.2⟩)
  have key : (op.handler w).1.reqs = w.reqs ∧ (op.handler w).1.ents = w.ents := by
    cases op with
    | build a => exact ⟨rfl, rfl⟩
    | jit v => exact ⟨rfl, rfl⟩
    | setid v => exact ⟨rfl, rfl⟩
    | fire t =>
      -- the only callback that runs for no protocol is the handshake timeout: it fails the connect Deferred and aborts
      show (fireTimer t w).1.reqs = w.reqs ∧ (fireTimer t w).1.ents = w.ents
      simp only [Op.proto?] at hop
      simp only [fireTimer, Step.read]
      cases ht : w.timers.get? t with
      | none => exact ⟨rfl, rfl⟩
      | some tm =>
        rw [ht] at hop
        dsimp only at hop ⊢
        split
        · cases hk : tm.kind with
          | connack cr =>
            exact c.seq (fun _ => ⟨rfl, rfl⟩) (c.runTimer_connack cr
              (fun d => c.fireDfd d _ (fun _ => ⟨rfl, rfl⟩) (fun _ => ⟨rfl, rfl⟩)) (fun _ _ => ⟨rfl, rfl⟩) (fun _ _ => ⟨rfl, rfl⟩)) w
          | _ =>
            rw [hk] at hop
            cases hop
        · exact ⟨rfl, rfl⟩
    | _ => cases hop
  rcases step_eq w op with h | ⟨_, h⟩ <;> rw [h]
  all_goals exact key

/-- **histories**: a history foreign to `A` that respects `Env`, started in a reachable state, leaves every request object of `A`'s
    dictionaries in place and untouched -/
theorem others_never_touch_requests (A : Nat) : ∀ (ops : List Op) (w : World), WInv w → EnvRun w ops → foreign A w ops = true →
    ∀ e ∈ w.ents, e.addr = A → e ∈ (run w ops).ents ∧ (run w ops).reqs.get? e.rid = w.reqs.get? e.rid := by
  intro ops w0 hw0 henv hf e he hea
  refine (run_induction (I := fun w => WInv w ∧ e ∈ w.ents ∧ w.reqs.get? e.rid = w0.reqs.get? e.rid)
    (G := fun w ops => EnvRun w ops ∧ foreign A w ops = true) ?_ ops w0 ⟨hw0, he, rfl⟩ ⟨henv, hf⟩).2
  intro w op r ⟨hw, hm, hr⟩ ⟨hE, hF⟩
  obtain ⟨hop, hF'⟩ := foreign_cons hF
  refine ⟨⟨step_inv hw op hE.1, (foreign_step hop).mem hm hea, ?_⟩, hE.2, hF'⟩
  rcases hop with hop | ⟨q, hop, hq⟩
  · rw [(free_step_requests hop).1]
    exact hr
  · exact (Mqtt.other_step_requests hw hop hq e hm hea).trans hr

/-- and the Deferred each of those requests will fire is still unfired at the end -/
theorem others_never_fire (A : Nat) (ops : List Op) (w : World) (hw : WInv w) (henv : EnvRun w ops) (hf : foreign A w ops = true)
    (e : Ent) (he : e ∈ w.ents) (hea : e.addr = A) (d : Nat) (hd : (w.req e.rid).dfd = some d) :
    ((run w ops).req e.rid).dfd = some d ∧ d ∉ (run w ops).fired := by
  obtain ⟨i1, i2⟩ := others_never_touch_requests A ops w hw henv hf e he hea
  have hreq : (run w ops).req e.rid = w.req e.rid := by simp only [World.req, i2]
  have hw' : WInv (run w ops) := run_inv ops hw henv
  exact ⟨by rw [hreq]; exact hd, (hw'.dfdFresh e i1 d (by rw [hreq]; exact hd)).2⟩

/-- not vacuous: the hypotheses hold for the demonstration history of C19b (address 0 holds two requests while nine operations run for address 1) -/
theorem onOne_env : EnvRun (run (World.init 3) twoUp) onOne :=
  (envRun_append twoUp onOne _ (envRun_append (twoUp ++ onOne) onZero _ twoUp_env).1).2
example : foreign 0 (run (World.init 3) twoUp) onOne = true ∧
    (((run (World.init 3) twoUp).ents.filter (onA 0)).map fun e => ((run (World.init 3) twoUp).req e.rid).dfd) = [some 2, some 3] := by decide +kernel

end Mqtt.C19
