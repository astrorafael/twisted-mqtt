import MqttVerif.Props.C08s
import MqttVerif.Proofs.EnvOk
/-
  C12, the wire side of resumption: what `_syncSession` writes when a persistent session is resumed.
  In container order, the release window first: for every inherited PUBREL (entry without a running retry timer) its packet --
  with DUP set under 3.1, DUP clear under 3.1.1 --, then for every inherited PUBLISH its packet with DUP set; same bytes
  otherwise (`C08.patchDup_tail`), nothing else, nothing for entries that already have a timer.
-/
namespace Mqtt.C12
open Mqtt

theorem retryPublishW_req_other (p rid : Nat) (dup : Bool) (w : World) (r : Nat) (hr : rid ≠ r) :
    (retryPublishW p rid dup w).req r = w.req r := by
  simp only [retryPublishW, req_setReq, ↓reduceIte]
  split <;> simp [hr]
theorem retryReleaseW_req_other (p rid : Nat) (dup : Bool) (w : World) (r : Nat) (hr : rid ≠ r) :
    (retryReleaseW p rid dup w).req r = w.req r := by
  simp only [retryReleaseW]
  split <;> simp [hr]
theorem retryPublishW_proto (p rid : Nat) (dup : Bool) (w : World) (q : Nat) : (retryPublishW p rid dup w).proto q = w.proto q := by
  simp only [World.proto, retryPublishW_protos]
theorem retryReleaseW_proto (p rid : Nat) (dup : Bool) (w : World) (q : Nat) : (retryReleaseW p rid dup w).proto q = w.proto q := by
  simp only [World.proto, retryReleaseW_protos]

/-- one pass of `_syncSession` over a list of entries with pairwise distinct request records: the log grows by one write per
    entry without a running timer, in list order; records of other requests, the protocol objects and the containers are untouched -/
theorem resume_pass (p : Nat) (step : Nat → World → World) (bytes : World → Nat → Bytes)
    (hlog : ∀ rid w, (step rid w).log = w.log ++ [.write p (bytes w rid)])
    (hother : ∀ rid w r, rid ≠ r → (step rid w).req r = w.req r)
    (hproto : ∀ rid w q, (step rid w).proto q = w.proto q)
    (hbytes : ∀ w w' rid, w'.req rid = w.req rid → (∀ q, w'.proto q = w.proto q) → bytes w' rid = bytes w rid) :
    ∀ (l : List Ent) (w : World), (l.map Ent.rid).Nodup →
      let w' := l.foldl (fun w e => if (w.req e.rid).alarm = none then step e.rid w else w) w
      w'.log = w.log ++ (l.filter fun e => (w.req e.rid).alarm = none).map (fun e => Obs.write p (bytes w e.rid)) ∧
      (∀ r, r ∉ l.map Ent.rid → w'.req r = w.req r) ∧ (∀ q, w'.proto q = w.proto q) := by
  intro l
  induction l with
  | nil => intro w _; simp
  | cons e rest ih =>
    intro w hnd
    simp only [List.map_cons, List.nodup_cons] at hnd
    obtain ⟨hne, hnd'⟩ := hnd
    simp only [List.foldl_cons]
    obtain ⟨w1, hw1⟩ : ∃ w1, w1 = (if (w.req e.rid).alarm = none then step e.rid w else w) := ⟨_, rfl⟩
    rw [← hw1]
    have hreq1 : ∀ r, e.rid ≠ r → w1.req r = w.req r := by
      intro r hr; rw [hw1]; split
      · exact hother _ _ _ hr
      · rfl
    have hproto1 : ∀ q, w1.proto q = w.proto q := by
      intro q; rw [hw1]; split
      · exact hproto _ _ _
      · rfl
    obtain ⟨i1, i2, i3⟩ := ih w1 hnd'
    have hrest : ∀ y ∈ rest, w1.req y.rid = w.req y.rid := fun y hy =>
      hreq1 _ (fun hc => hne (hc ▸ List.mem_map_of_mem hy))
    have hfilter : (rest.filter fun y => (w1.req y.rid).alarm = none) = rest.filter fun y => (w.req y.rid).alarm = none := by
      apply List.filter_congr; intro y hy; rw [hrest y hy]
    have hmap : ((rest.filter fun y => (w.req y.rid).alarm = none).map fun y => Obs.write p (bytes w1 y.rid)) =
        (rest.filter fun y => (w.req y.rid).alarm = none).map fun y => Obs.write p (bytes w y.rid) := by
      apply List.map_congr_left; intro y hy
      rw [hbytes w w1 y.rid (hrest y (List.mem_of_mem_filter hy)) hproto1]
    refine ⟨?_, fun r hr => ?_, fun q => by rw [i3, hproto1]⟩
    · rw [i1, hfilter, hmap]
      simp only [List.filter_cons]
      by_cases ha : (w.req e.rid).alarm = none
      · have : w1.log = w.log ++ [.write p (bytes w e.rid)] := by rw [hw1, if_pos ha]; exact hlog _ _
        simp [ha, this]
      · have : w1.log = w.log := by rw [hw1, if_neg ha]
        simp [ha, this]
    · simp only [List.map_cons, List.mem_cons, not_or] at hr
      rw [i2 r hr.2, hreq1 r (fun hc => hr.1 hc.symm)]

theorem foldl_ents_same (l : List Ent) (f : World → Ent → World) (hf : ∀ w e, (f w e).ents = w.ents) (w : World) :
    (l.foldl f w).ents = w.ents := by
  induction l generalizing w with
  | nil => rfl
  | cons e r ih => simp only [List.foldl_cons]; rw [ih, hf]

/-- **what resumption writes** -/
theorem resume_writes {x : Option Nat} {w : World} (h : WInvX x w) (p : Nat) :
    (syncW p w).log = w.log ++
      ((Ents.items w.ents (w.paddr p) .rel).filter fun e => (w.req e.rid).alarm = none).map
        (fun e => Obs.write p (if (w.proto p).version = v31 then patchDup (w.req e.rid).encoded true else clearDup (w.req e.rid).encoded)) ++
      ((Ents.items w.ents (w.paddr p) .pub).filter fun e => (w.req e.rid).alarm = none).map
        (fun e => Obs.write p (patchDup (w.req e.rid).encoded true)) := by
  have hnd : ∀ b, ((Ents.items w.ents (w.paddr p) b).map Ent.rid).Nodup := by
    intro b
    have hsub : (Ents.items w.ents (w.paddr p) b).Sublist w.ents := by
      generalize w.ents = es
      induction es with
      | nil => exact List.Sublist.refl _
      | cons y r ih => simp only [Ents.items]; split <;> [exact ih.cons₂ _; exact ih.cons _]
    refine (List.Nodup.sublist hsub h.nodup).map_on ?_
    intro a ha b' hb' hab
    exact h.ridUnique a (hsub.subset ha) b' (hsub.subset hb') hab
  simp only [syncW]
  obtain ⟨a1, a2, a3⟩ := resume_pass p (fun rid w => retryReleaseW p rid true w)
    (fun w rid => if (w.proto p).version = v31 then patchDup (w.req rid).encoded true else clearDup (w.req rid).encoded)
    (fun rid w => C08.retryRelease_writes p rid true w) (fun rid w r hr => retryReleaseW_req_other p rid true w r hr)
    (fun rid w q => retryReleaseW_proto p rid true w q) (fun w w' rid hr hp => by simp only [hr, hp])
    (Ents.items w.ents (w.paddr p) .rel) w (hnd .rel)
  obtain ⟨w1, hw1⟩ : ∃ w1, w1 = (Ents.items w.ents (w.paddr p) .rel).foldl
      (fun w e => if (w.req e.rid).alarm = none then retryReleaseW p e.rid true w else w) w := ⟨_, rfl⟩
  rw [← hw1] at a1 a2 a3 ⊢
  have hents1 : w1.ents = w.ents := by
    rw [hw1]
    apply foldl_ents_same
    intro w' e
    split
    · exact retryReleaseW_ents _ _ _ _
    · rfl
  have hpa1 : w1.paddr p = w.paddr p := by simp only [World.paddr, a3]
  -- the publish-window entries refer to records the first pass did not touch
  have hpub_req : ∀ e ∈ Ents.items w.ents (w.paddr p) .pub, w1.req e.rid = w.req e.rid := by
    intro e he
    apply a2
    intro hc
    obtain ⟨y, hy, hyr⟩ := List.mem_map.mp hc
    have h1 := Ents.mem_items.mp he
    have h2 := Ents.mem_items.mp hy
    have := h.ridUnique y h2.1 e h1.1 hyr
    rw [this] at h2
    rw [h1.2.2] at h2
    exact absurd h2.2.2 (by decide)
  obtain ⟨b1, _, _⟩ := resume_pass p (fun rid w => retryPublishW p rid true w)
    (fun w rid => patchDup (w.req rid).encoded true)
    (fun rid w => (C08.retryPublish_writes p rid true w).1) (fun rid w r hr => retryPublishW_req_other p rid true w r hr)
    (fun rid w q => retryPublishW_proto p rid true w q) (fun w w' rid hr _ => by simp only [hr])
    (Ents.items w1.ents (w1.paddr p) .pub) w1 (by rw [hents1, hpa1]; exact hnd .pub)
  rw [b1, a1, hents1, hpa1]
  congr 1
  have hf : ((Ents.items w.ents (w.paddr p) .pub).filter fun e => (w1.req e.rid).alarm = none) =
      (Ents.items w.ents (w.paddr p) .pub).filter fun e => (w.req e.rid).alarm = none := by
    apply List.filter_congr; intro e he; rw [hpub_req e he]
  rw [hf]
  apply List.map_congr_left
  intro e he
  rw [hpub_req e (List.mem_of_mem_filter he)]

/-- not vacuous: in the demo history the second connection resumes a session that holds one PUBREL and one PUBLISH without timer;
    `_syncSession` writes exactly those two packets -/
example : let w := run (World.init 3) (demo.take 25)
    ((Ents.items w.ents (w.paddr 1) .rel).filter fun e => (w.req e.rid).alarm = none).length = 1 ∧
    ((Ents.items w.ents (w.paddr 1) .pub).filter fun e => (w.req e.rid).alarm = none).length = 1 ∧
    (syncW 1 w).log.length = w.log.length + 2 := by decide +kernel

end Mqtt.C12
