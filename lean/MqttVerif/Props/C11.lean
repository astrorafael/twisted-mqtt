import MqttVerif.Proofs.More
/-
  C11 — Clean session: connection loss fails everything pending and nothing carries over.
-/
namespace Mqtt.C11
open Mqtt

/-- **connection loss, clean session**: no exception; afterwards no request of the address is left in any container --
    not in the publish window, the release window, the queue of held-back messages, nor the subscribe/unsubscribe
    windows -- so the next connection to the address starts from nothing -/
theorem nothing_carried_over {w : World} (h : WInv w) (p : Nat) (ppr : Proto) (hpp : w.protos.get? p = some ppr)
    (hnl : ppr.lost = false) (hclean : ppr.cleanStart = true) (reason : Err) :
    (connectionLost p reason w).2 = none ∧ ∀ y ∈ (connectionLost p reason w).1.ents, y.addr ≠ ppr.addr := by
  obtain ⟨a, _, c⟩ := connectionLost_full h p ppr hpp hnl reason
  exact ⟨a, c.clean hclean⟩

/-- the only Deferreds connection loss fires are failures (and it writes, aborts and delivers nothing). That every request
    which leaves a container this way has its Deferred fired, with the reason of the loss, is seen in the handler, where
    removal and errback are one step of the loops (`dropFail_inv`, `drainQueue`), not in this statement. -/
theorem loss_only_fails (p : Nat) (r : Err) : Emits ⟨fun _ => false, fun _ => false, false⟩ (connectionLost p r) := lost_silent p r

/-- ... exactly once: no Deferred fires twice in any history -/
theorem at_most_once (profile : Nat) (ops : List Op) : (firedIds (run (World.init profile) ops).log).Nodup :=
  fires_at_most_once profile ops

/-- and none is left hanging with a timer: after the loss no retry timer of the connection is pending -/
theorem no_timer_left {w : World} (h : WInv w) (p : Nat) (pr : Proto) (hp : w.protos.get? p = some pr) (hl : pr.lost = true) (t : Nat) :
    (∀ rid, ¬ Pending w t (.retry p rid)) ∧ ¬ Pending w t (.pingLoop p) ∧ ¬ Pending w t (.pingAlarm p) :=
  lost_has_no_timers h p pr hp hl t

/-- the invariant (in particular: Deferreds of unfinished requests unfired, one owner each) survives the loss -/
theorem loss_safe {w : World} (h : WInv w) (p : Nat) (ppr : Proto) (hpp : w.protos.get? p = some ppr)
    (hnl : ppr.lost = false) (reason : Err) : WInv (connectionLost p reason w).1 := (connectionLost_inv h p ppr hpp hnl reason).2

end Mqtt.C11
