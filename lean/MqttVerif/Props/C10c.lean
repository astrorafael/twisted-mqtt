import MqttVerif.Proofs.WindowPos
import MqttVerif.Props.C10
import MqttVerif.Proofs.Local
/-
  C10: the window in force is never smaller than one message (constructor default 1, `setWindowSize` accepts 1..16), for every protocol
  object after every history -- no invariant, no `Env`.  With `refill_leaves_no_room` this is the form of "no accepted message is left
  unsent while no QoS>0 exchange is outstanding" that holds right after every refill: no message held back, or a PUBLISH in flight.
-/
namespace Mqtt.C10

/-- after any history every protocol object has a window of at least one message -/
theorem window_at_least_one (profile : Nat) (ops : List Op) (p : Nat) : 1 ≤ ((run (World.init profile) ops).proto p).window :=
  wpos_run ops _ (wpos_init profile) p

/-- **nothing stranded by a refill**: after `_refillPublish` (run after every publish(), PUBACK, PUBCOMP and CONNACK) no message of the
    address is held back, or at least one PUBLISH of the address is awaiting its first acknowledgement -/
theorem refill_leaves_exchange (p : Nat) (dup : Bool) (fuel : Nat) (w : World) (hw : 1 ≤ (w.proto p).window)
    (hf : (Ents.items w.ents (w.paddr p) .queue).length ≤ fuel) :
    Ents.items (refillW p dup fuel w).ents (w.paddr p) .queue = [] ∨ 0 < Ents.count (refillW p dup fuel w).ents (w.paddr p) .pub := by
  rcases refill_leaves_no_room p dup fuel w hf with h | h
  · exact Or.inl h
  · exact Or.inr (by omega)

/-- the same in any world `w'` that has the protocol objects of `w`: address and window of `p` are read off them -/
theorem refill_leaves_exchange_at (w w' : World) (hp : w'.protos = w.protos) (p : Nat) (hw : 1 ≤ (w.proto p).window) (fuel : Nat)
    (hf : Ents.count w'.ents (w.paddr p) .queue ≤ fuel) :
    Ents.items (refillW p false fuel w').ents (w.paddr p) .queue = [] ∨ 0 < Ents.count (refillW p false fuel w').ents (w.paddr p) .pub := by
  have h1 : w'.paddr p = w.paddr p := by simp only [World.paddr, World.proto, hp]
  have h2 : w'.proto p = w.proto p := by simp only [World.proto, hp]
  have := refill_leaves_exchange p false fuel w' (by rw [h2]; exact hw) (by rw [h1]; exact hf)
  rw [h1] at this
  exact this

/-- what PUBACK and PUBCOMP end with: whatever entry `e` left the windows and whatever was fired, the refill comes last -/
theorem ack_refills {w : World} {p : Nat} {ppr : Proto} (hpp : w.protos.get? p = some ppr) (hwin : 1 ≤ ppr.window) (e : Ent)
    (t d : Nat) (o : Obs) (fuel : Nat) (hf : Ents.count (fireD (dropArmed w e t) d o).ents ppr.addr .queue ≤ fuel) :
    Ents.items (refillW p false fuel (fireD (dropArmed w e t) d o)).ents ppr.addr .queue = [] ∨
    0 < Ents.count (refillW p false fuel (fireD (dropArmed w e t) d o)).ents ppr.addr .pub := by
  have ha : w.paddr p = ppr.addr := by simp only [World.paddr, World.proto, hpp, Option.getD_some]
  have hw : (w.proto p).window = ppr.window := by simp only [World.proto, hpp, Option.getD_some]
  rw [← ha] at hf ⊢
  exact refill_leaves_exchange_at w (fireD (dropArmed w e t) d o) rfl p (by rw [hw]; exact hwin) fuel hf

/-- **after a PUBACK for a message in flight**: the slot it frees is refilled at once -- afterwards no message of the address is held back,
    or a PUBLISH of the address is awaiting its first acknowledgement -/
theorem puback_refills {w : World} (h : WInv w) (p : Nat) (ppr : Proto) (hpp : w.protos.get? p = some ppr)
    (hlive : ppr.lost = false) (hconn : ppr.state = .connected) (hwin : 1 ≤ ppr.window) (m rid : Nat)
    (hl : Ents.lookup w.ents ppr.addr .pub m = some rid) (hq1 : (w.req rid).qos = 1) :
    Ents.items (handlePUBACK p m w).1.ents ppr.addr .queue = [] ∨ 0 < Ents.count (handlePUBACK p m w).1.ents ppr.addr .pub := by
  obtain ⟨t, d, _, _, _, _, he⟩ := handlePUBACK_effect h p ppr hpp hlive hconn m rid hl hq1
  rw [he]
  exact ack_refills hpp hwin _ t d _ _ (Nat.le_refl _)

/-- the same after a PUBCOMP -/
theorem pubcomp_refills {w : World} (h : WInv w) (p : Nat) (ppr : Proto) (hpp : w.protos.get? p = some ppr)
    (hlive : ppr.lost = false) (hconn : ppr.state = .connected) (hwin : 1 ≤ ppr.window) (m rid : Nat)
    (hl : Ents.lookup w.ents ppr.addr .rel m = some rid) :
    Ents.items (handlePUBCOMP p m w).1.ents ppr.addr .queue = [] ∨ 0 < Ents.count (handlePUBCOMP p m w).1.ents ppr.addr .pub := by
  obtain ⟨t, d, _, _, _, _, he⟩ := handlePUBCOMP_effect h p ppr hpp hlive hconn m rid hl
  rw [he]
  exact ack_refills hpp hwin _ t d _ _ (Nat.le_refl _)

/-- `doPublish` after the checks, run in a world `w'` that has the protocol objects of `w` (an identifier and a Deferred may have
    been drawn in between) -/
theorem mk_refills_at (w w' : World) (hp : w'.protos = w.protos) (p : Nat) (qn m : Nat) (d : Option Nat) (bs : Bytes) (o : Obs)
    (hw : 1 ≤ (w.proto p).window) :
    Ents.items ((mkStep p (w.proto p) qn m d bs ;; emit o) w').1.ents (w.paddr p) .queue = [] ∨
    0 < Ents.count ((mkStep p (w.proto p) qn m d bs ;; emit o) w').1.ents (w.paddr p) .pub := by
  simp only [mkStep, Step.read, Step.seq, Step.mod, setEnts, refill, emit]
  generalize hw2 : (World.setEnts _ _) = w2
  have hp2 : w2.protos = w.protos := by rw [← hw2]; exact hp
  have h1 : w2.paddr p = w.paddr p := by simp only [World.paddr, World.proto, hp2]
  rw [h1]
  exact refill_leaves_exchange_at w w2 hp2 p hw _ (Nat.le_refl _)

theorem mk_refills (w : World) (p : Nat) (qn m : Nat) (d : Option Nat) (bs : Bytes) (o : Obs) (hw : 1 ≤ (w.proto p).window) :
    Ents.items ((mkStep p (w.proto p) qn m d bs ;; emit o) w).1.ents (w.paddr p) .queue = [] ∨
    0 < Ents.count ((mkStep p (w.proto p) qn m d bs ;; emit o) w).1.ents (w.paddr p) .pub :=
  mk_refills_at w w rfl p qn m d bs o hw

/-- **after publish()**: refused or rejected calls change no container; an accepted one ends with the refill, so afterwards no message of the
    address is held back, or a PUBLISH of the address is awaiting its first acknowledgement -/
theorem publish_refills (w : World) (p : Nat) (topic : PyStr) (payload : Payload) (qos : Int) (retain : Bool)
    (hw : 1 ≤ (w.proto p).window) :
    (apiPublish p topic payload qos retain w).1.ents = w.ents ∨
    Ents.items (apiPublish p topic payload qos retain w).1.ents (w.paddr p) .queue = [] ∨
    0 < Ents.count (apiPublish p topic payload qos retain w).1.ents (w.paddr p) .pub := by
  rw [apiPublish_read, read_apply]
  split
  · exact Or.inl rfl
  · split
    · exact Or.inl rfl
    · split
      · cases encodePublishPy topic payload 0 retain none with
        | error e => exact Or.inl rfl
        | ok bs => exact Or.inr (mk_refills w p _ _ _ _ _ hw)
      · -- an identifier is drawn first, then a Deferred: neither touches the containers or the protocol objects
        simp only [makeId, Step.read, Step.seq, Step.mod]
        cases encodePublishPy topic payload qos.toNat retain (some ((scanId w 65535 w.nextId : Nat) : Int)) with
        | error e => exact Or.inl rfl
        | ok bs =>
          refine Or.inr (mk_refills_at w _ ?_ p _ _ _ _ _ hw)
          rfl
end Mqtt.C10
