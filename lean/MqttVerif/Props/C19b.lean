import MqttVerif.Proofs.TimerFrame
import MqttVerif.Proofs.EnvOk
import MqttVerif.Props.ConfigAddr
/-
  C19, the mechanism the property is anchored in: "every access goes through [self.addr]".

  The six per-address dictionaries of the factory (held-back queue, the four windows of requests in flight, the store of received
  QoS 2 messages) are the lists `ents` and `rx` of the model, each entry tagged with its address.  `w.only A` deletes from them every
  entry of an address other than `A`.  Proved here for EVERY world `w` -- no invariant, no `Env`, any history before it --:

    * `own_step`   : an operation run by a protocol of address `A` cannot tell `w` from `w.only A`: same result, same observations,
                     and the world it leaves is `(step w op).only A`.  It neither reads nor writes an entry of another address.
    * `other_step` : an operation run by a protocol of another address leaves the `A`-part of all six dictionaries exactly as it was.
    * `free_step`  : operations run by no protocol (`buildProtocol`, the handshake timeout) do both.

  and lifted to histories of any length (`others_never_touch`, `own_history_ignores_others`).

  The one thing through which addresses see each other is `makeId`: it scans the identifiers of all addresses.  For the three calls
  that draw an identifier `own_step` is conditional on `IdAgree`: the identifier drawn is the one that would be drawn if the other
  addresses had nothing unfinished (always so when the next identifier of the counter is free, `idAgree_of_next_free`).  That the
  identifiers nevertheless never collide is `C19.identifiers_never_collide`.

  The object layer, in every state reachable from a fresh factory (`WInv`; `Env` for the operation): an operation run by a protocol of
  another address leaves untouched
    * every request object A's dictionaries refer to -- bytes, identifier, QoS, Deferred, timer reference, interval (`other_step_requests`),
    * the Deferreds of those requests: still theirs, still unfired (`other_step_deferreds`),
    * every pending retransmission timer of A's requests and the pending keepalive timers of A's protocols (`other_step_timers`; and no
      operation at all re-programs a timer, `timers_never_reprogrammed`),
    * every protocol object but its own (`writes_own_protocol_only`, no invariant needed).

  What is still NOT one theorem (and the solo-replay comparison on the real code checks on every run): the composition of all this into a
  bisimulation "the interleaved run restricted to A = A's solo run with identifiers renamed"; handshake records and `onDisconnection`
  timers are covered by the invariant (`connecting`, `connackOwned`) and by C04's theorems, not by a frame theorem of their own.
-/
namespace Mqtt.C19
open Mqtt

theorem own_step {A p : Nat} {w : World} {op : Op} (hop : op.proto? w = some p) (hp : w.paddr p = A) (hid : IdAgree A w op) :
    step (w.only A) op = (step w op).only A := Mqtt.own_step hop hp hid

theorem other_step {A q : Nat} {w : World} {op : Op} (hop : op.proto? w = some q) (hq : w.paddr q ≠ A) :
    (step w op).ents.filter (onA A) = w.ents.filter (onA A) ∧ (step w op).rx.filter (rxOnA A) = w.rx.filter (rxOnA A) :=
  Mqtt.other_step hop hq

theorem free_step {w : World} {op : Op} (hop : op.proto? w = none) (A : Nat) :
    step (w.only A) op = (step w op).only A ∧ SameA A w (step w op) := Mqtt.free_step hop A

/-- `IdAgree` holds whenever the identifier the counter points at next is free: both scans stop at once -/
theorem idAgree_of_next_free (A : Nat) (w : World) (h : idInUse w (bumpId w.nextId) = false) :
    scanId (w.only A) 65535 w.nextId = scanId w 65535 w.nextId := by
  have h' : idInUse (w.only A) (bumpId w.nextId) = false := by
    simp only [idInUse, List.any_eq_false] at h ⊢
    intro e he
    have := h e (List.mem_filter.mp he).1
    simpa using this
  have key : ∀ (v : World) (n cur : Nat), idInUse v (bumpId cur) = false → scanId v (n + 1) cur = bumpId cur := by
    intro v n cur hv; simp only [scanId, hv]; rfl
  show scanId (w.only A) (65534 + 1) w.nextId = scanId w (65534 + 1) w.nextId
  rw [key _ _ _ h, key _ _ _ h']

/-- **session state**: an operation run by protocol `p` writes to no protocol object but `p` -- not to the state, version, receive
    buffer, window size, session mode, keepalive objects, handler slots or handshake reference of any other protocol of the factory,
    whether it serves another address or (an earlier, lost one) the same -/
theorem writes_own_protocol_only (w : World) (op : Op) (p q : Nat) (hop : op.proto? w = some p) (hq : q ≠ p) :
    (step w op).protos.get? q = w.protos.get? q := step_protos w op q (by rw [hop]; exact hq)

/-- **request objects and their Deferreds**: in a state reachable from a fresh factory (`WInv`), an operation run by a protocol of another
    address leaves every request object that the dictionaries of address `A` refer to exactly as it was: the packet bytes (and so the DUP
    bit), identifier, QoS, the Deferred it will fire, its retry-timer reference and retry interval -/
theorem other_step_requests {w : World} (hw : WInv w) {op : Op} {q A : Nat} (hop : op.proto? w = some q) (hq : w.paddr q ≠ A) :
    ∀ e ∈ w.ents, e.addr = A → (step w op).reqs.get? e.rid = w.reqs.get? e.rid := Mqtt.other_step_requests hw hop hq

/-- **timers**: in a reachable state, an operation run by a protocol of another address leaves every pending retransmission timer of a request
    of address `A` and the pending keepalive timers of a protocol of address `A` exactly as they are (due time, callback, status) -/
theorem other_step_timers {w : World} (hw : WInv w) {op : Op} (henv : Env w op) {q A : Nat} (hop : op.proto? w = some q) (hq : w.paddr q ≠ A)
    (t p : Nat) (hp : w.paddr p = A) (k : TKind) (hk : (∃ rid, k = .retry p rid) ∨ k = .pingAlarm p ∨ k = .pingLoop p)
    (hpend : Pending w t k) : (step w op).timers.get? t = w.timers.get? t := Mqtt.other_step_timers hw henv hop hq t p hp k hk hpend

theorem _root_.Mqtt.SameA.mem {A : Nat} {w w' : World} (h : SameA A w w') {e : Ent} (he : e ∈ w.ents) (hea : e.addr = A) :
    e ∈ w'.ents := by
  have : e ∈ w.ents.filter (onA A) := List.mem_filter.mpr ⟨he, by simp [onA, hea]⟩
  rw [← h.1] at this
  exact (List.mem_filter.mp this).1

/-- **pending Deferreds**: the Deferred of every request that the dictionaries of address `A` hold is still the Deferred of that request and
    still unfired after any operation run by a protocol of another address (it can only be fired by an operation of its own address) -/
theorem other_step_deferreds {w : World} (hw : WInv w) {op : Op} (henv : Env w op) {q A : Nat} (hop : op.proto? w = some q) (hq : w.paddr q ≠ A)
    (e : Ent) (he : e ∈ w.ents) (hea : e.addr = A) (d : Nat) (hd : (w.req e.rid).dfd = some d) :
    e ∈ (step w op).ents ∧ ((step w op).req e.rid).dfd = some d ∧ d ∉ (step w op).fired := by
  have hw' : WInv (step w op) := step_inv hw op henv
  have he' : e ∈ (step w op).ents := SameA.mem (Mqtt.other_step hop hq) he hea
  have hreq : (step w op).req e.rid = w.req e.rid := by
    simp only [World.req, Mqtt.other_step_requests hw hop hq e he hea]
  exact ⟨he', by rw [hreq]; exact hd, (hw'.dfdFresh e he' d (by rw [hreq]; exact hd)).2⟩

/-- and no operation whatsoever re-programs a timer: due time and callback of every DelayedCall are fixed when it is created -/
theorem timers_never_reprogrammed {w : World} (hw : WInv w) (op : Op) (t : Nat) (tm : Timer) (ht : w.timers.get? t = some tm) :
    ∃ tm', (step w op).timers.get? t = some tm' ∧ tm'.due = tm.due ∧ tm'.kind = tm.kind :=
  (step_timers_keep w (fun t tm h => hw.timerFresh t tm h) op).keep t tm ht

/-! ### histories -/

/-- no operation of the history is run by a protocol of address `A` -/
def foreign (A : Nat) : World → List Op → Bool
  | _, [] => true
  | w, op :: r => (match op.proto? w with | some q => decide (w.paddr q ≠ A) | none => true) && foreign A (step w op) r

theorem foreign_cons {A : Nat} {w : World} {op : Op} {r : List Op} (h : foreign A w (op :: r) = true) :
    (op.proto? w = none ∨ ∃ q, op.proto? w = some q ∧ w.paddr q ≠ A) ∧ foreign A (step w op) r = true := by
  simp only [foreign, Bool.and_eq_true] at h
  refine ⟨?_, h.2⟩
  cases hop : op.proto? w with
  | none => exact .inl rfl
  | some q =>
    have := h.1
    rw [hop] at this
    exact .inr ⟨q, rfl, by simpa using this⟩

theorem foreign_step {A : Nat} {w : World} {op : Op} (h : op.proto? w = none ∨ ∃ q, op.proto? w = some q ∧ w.paddr q ≠ A) :
    SameA A w (step w op) := by
  rcases h with hop | ⟨q, hop, hq⟩
  · exact (Mqtt.free_step hop A).2
  · exact Mqtt.other_step hop hq

/-- **any amount of activity on other addresses** -- API calls, received bytes in any chunking, connection losses, reconnections,
    timers -- leaves the held-back queue, the four windows and the inbound store of address `A` exactly as they were -/
theorem others_never_touch (A : Nat) : ∀ (ops : List Op) (w : World), foreign A w ops = true → SameA A w (run w ops) := by
  intro ops w h
  refine run_induction (I := SameA A w) (G := fun w ops => foreign A w ops = true) (fun w' op r hI hG => ?_) ops w (SameA.refl A w) h
  obtain ⟨hop, hr⟩ := foreign_cons hG
  exact ⟨hI.trans (foreign_step hop), hr⟩

instance (A : Nat) (w : World) (op : Op) : Decidable (IdAgree A w op) := by
  cases op <;> simp only [IdAgree] <;> infer_instance

/-- every operation of the history is run by a protocol of address `A` (or by none) and draws the identifier it would draw alone -/
def mine (A : Nat) : World → List Op → Bool
  | _, [] => true
  | w, op :: r => (match op.proto? w with | some q => decide (w.paddr q = A) | none => true) && decide (IdAgree A w op) && mine A (step w op) r

/-- **a history of address `A` runs the same whatever the other addresses hold**: started from `w` or from `w.only A` it returns the
    same results, makes the same observations (the log is part of the world) and ends in the same world up to the other addresses' entries -/
theorem own_history_ignores_others (A : Nat) : ∀ (ops : List Op) (w : World), mine A w ops = true →
    run (w.only A) ops = (run w ops).only A := by
  intro ops
  induction ops with
  | nil => intro w _; rfl
  | cons op r ih =>
    intro w h
    simp only [mine, Bool.and_eq_true, decide_eq_true_eq] at h
    have h1 : step (w.only A) op = (step w op).only A := by
      cases hop : op.proto? w with
      | none => exact (Mqtt.free_step hop A).1
      | some q =>
        have := h.1.1; rw [hop] at this
        exact Mqtt.own_step hop (by simpa using this) h.1.2
    show run (step (w.only A) op) r = (run (step w op) r).only A
    rw [h1]
    exact ih (step w op) h.2

/-! ### not vacuous: two addresses served at once -/

def twoUp : List Op :=
  [ .build 0, .build 1, .sethandlers 0 7, .sethandlers 1 7, .connect 0 (cargs 0 false), .connect 1 (cargs 5 true),
    .recv 0 [0x20, 2, 0, 0], .recv 1 [0x20, 2, 0, 0],
    .publish 0 (.str "a") (.bytearray [1]) 1 false, .publish 0 (.str "b") (.bytearray [2]) 2 false,
    .recv 0 [0x30, 6, 0, 1, 0x78, 0, 9, 7] ]
def onOne : List Op :=
  [ .publish 1 (.str "x") (.bytearray [3]) 2 false, .subscribe 1 (.str "t") 1, .recv 1 [0x50, 2, 0, 3], .recv 1 [0x34, 6, 0, 1, 0x79, 0, 9, 7],
    .lost 1 .connLost, .build 1, .connect 2 (cargs 0 true), .recv 2 [0x20, 2, 0, 0] ]
def onZero : List Op :=
  [ .publish 0 (.str "c") (.bytearray [4]) 1 false, .recv 0 [0x40, 2, 0, 1], .recv 0 [0x50, 2, 0, 2], .lost 0 .connLost ]

theorem envRun_append : ∀ (l1 l2 : List Op) (w : World), EnvRun w (l1 ++ l2) → EnvRun w l1 ∧ EnvRun (run w l1) l2
  | [], _, _, h => ⟨trivial, h⟩
  | _ :: l1, l2, _, h => ⟨⟨h.1, (envRun_append l1 l2 _ h.2).1⟩, (envRun_append l1 l2 _ h.2).2⟩

theorem twoUp_env : EnvRun (World.init 3) (twoUp ++ onOne ++ onZero) := envRunOk_sound _ _ (by decide +kernel)
/-- the activity on address 1 is foreign to address 0, whose dictionaries hold two requests at that point -/
example : foreign 0 (run (World.init 3) twoUp) onOne = true ∧ ((run (World.init 3) twoUp).ents.filter (onA 0)).length = 2
    ∧ ((run (World.init 3) (twoUp ++ onOne)).ents.filter (onA 1)).length = 0 := by decide +kernel
/-- the hypotheses of `other_step_requests` / `other_step_timers` are met there: address 0 has a pending retry timer (timer 4, request 0)
    and address 1 pending keepalive timers while operations are run for the other address -/
example : ((run (World.init 3) twoUp).timers.get? 4).map (fun t => (t.kind, t.status)) = some (.retry 0 0, .pending)
    ∧ ((run (World.init 3) twoUp).timers.get? 2).map (fun t => (t.kind, t.status)) = some (.pingAlarm 1, .pending)
    ∧ (run (World.init 3) twoUp).paddr 0 = 0 ∧ (run (World.init 3) twoUp).paddr 1 = 1 := by decide +kernel
/-- and the later activity on address 0 is `mine` -/
example : mine 0 (run (World.init 3) (twoUp ++ onOne)) onZero = true := by decide +kernel

end Mqtt.C19
