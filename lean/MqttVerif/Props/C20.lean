import MqttVerif.Model.Step
import MqttVerif.Props.ConfigOk
import MqttVerif.Props.C14
import MqttVerif.Proofs.Wire
/-
  C20 — Invalid arguments are rejected atomically with ValueError/TypeError; valid ones accepted.
  Every rejection below leaves the world exactly as it was, except for the observation of the
  rejection itself and (where the code allocates an identifier before it encodes) the id counter.
-/
namespace Mqtt.C20
open Mqtt C14

/-! ### setters: raise, change nothing -/

theorem setWindow_reject (w : World) (p : Nat) (n : Int) (h : ¬ (1 ≤ n ∧ n ≤ 16)) :
    apiSetWindow p (.int n) w = (w, some .value) := by
  have : ¬ (0 < n ∧ n ≤ (Config.maxWindow : Int)) := by rw [ConfigOk.maxWindow_ok]; omega
  simp [apiSetWindow, this, Step.raise]

theorem setWindow_none (w : World) (p : Nat) : apiSetWindow p .none w = (w, some .type) := rfl

theorem setWindow_accept (w : World) (p : Nat) (n : Int) (h : 1 ≤ n ∧ n ≤ 16) :
    apiSetWindow p (.int n) w =
      ({ w with protos := w.protos.set p { w.proto p with window := n.toNat }, log := w.log ++ [.retNone] }, none) := by
  have h1 : (0 < n ∧ n ≤ (Config.maxWindow : Int)) := by rw [ConfigOk.maxWindow_ok]; omega
  have h2 : min n.toNat Config.maxWindow = n.toNat := by rw [ConfigOk.maxWindow_ok]; omega
  simp [apiSetWindow, h1, h2, setProto, Step.seq, Step.mod, emit, World.emit]

theorem setTimeout_reject (w : World) (p : Nat) (n : Int) (h : ¬ (1 ≤ n ∧ n ≤ 1024)) :
    apiSetTimeout p (.int n) w = (w, some .value) := by
  have : ¬ (1 ≤ n ∧ n ≤ (Config.timeoutMaxInitial : Int)) := by rw [ConfigOk.timeoutMax_ok]; omega
  simp [apiSetTimeout, this, Step.raise]

theorem setTimeout_none (w : World) (p : Nat) : apiSetTimeout p .none w = (w, some .type) := rfl

theorem setTimeout_accept (w : World) (p : Nat) (n : Int) (h : 1 ≤ n ∧ n ≤ 1024) :
    apiSetTimeout p (.int n) w =
      ({ w with protos := w.protos.set p { w.proto p with initialT := n.toNat }, log := w.log ++ [.retNone] }, none) := by
  have h1 : (1 ≤ n ∧ n ≤ (Config.timeoutMaxInitial : Int)) := by rw [ConfigOk.timeoutMax_ok]; omega
  simp [apiSetTimeout, h1, setProto, Step.seq, Step.mod, emit, World.emit]

theorem setBandwith_reject (w : World) (p : Nat) (bw f : Rat) (h : bw ≤ 0 ∨ f ≤ 0) :
    apiSetBandwith p bw f w = (w, some .value) := by
  unfold apiSetBandwith
  rcases h with h | h
  · simp [h, Step.raise]
  · by_cases hb : bw ≤ 0 <;> simp [hb, h, Step.raise]

theorem setBandwith_accept (w : World) (p : Nat) (bw f : Rat) (hb : 0 < bw) (hf : 0 < f) :
    apiSetBandwith p bw f w =
      ({ w with protos := w.protos.set p { w.proto p with bandwith := bw, factor := f }, log := w.log ++ [.retNone] }, none) := by
  have h1 : ¬ bw ≤ 0 := Rat.not_le.mpr hb
  have h2 : ¬ f ≤ 0 := Rat.not_le.mpr hf
  simp [apiSetBandwith, h1, h2, setProto, Step.seq, Step.mod, emit, World.emit]

/-! ### connect() -/

/-- `checkConnect` is the conjunction of the constraints the property lists: will QoS 0..2, keepalive
    0..65535, a 3.1 client id of at most 23 characters, a known version, will topic and message together,
    no password without user name. Violating any of them fails the Deferred with ValueError and changes
    nothing else. -/
theorem connect_invalid (w : World) (p : Nat) (a : ConnectArgs) (hal : allowed w p 0 = true)
    (h : checkConnect a = false) :
    apiConnect p a w = (refusedWith w (.retFail .value), none) := by
  simp [apiConnect, Step.read, hal, h, emit, World.emit, Step.mod, refusedWith]

/-- a string over 65535 bytes (or any other encoding failure): ValueError, nothing else changes -/
theorem connect_unencodable (w : World) (p : Nat) (a : ConnectArgs) (hal : allowed w p 0 = true)
    (hc : checkConnect a = true) (e : Err) (he : a.toF.encode = .error e) :
    (e = .value ∧ apiConnect p a w = (refusedWith w (.retFail .value), none)) ∨
    (e ≠ .value ∧ apiConnect p a w = (w, some e)) := by
  by_cases hv : e = .value
  · left; subst hv
    exact ⟨rfl, by simp [apiConnect, Step.read, hal, hc, he, emit, World.emit, Step.mod, refusedWith]⟩
  · right
    exact ⟨hv, by simp [apiConnect, Step.read, hal, hc, he, hv, Step.raise]⟩

/-! ### publish() -/

theorem publish_bad_qos (w : World) (p : Nat) (t : PyStr) (pl : Payload) (q : Int) (r : Bool)
    (hal : allowed w p 4 = true) (h : ¬ (0 ≤ q ∧ q < 3)) :
    apiPublish p t pl q r w = (refusedWith w (.retFail .value), none) := by
  simp [apiPublish, Step.read, hal, h, emit, World.emit, Step.mod, refusedWith]

/-- QoS 0 with something that cannot be encoded (payload of another type, topic not a str, over-long
    topic): failed Deferred with that error, nothing else changes -/
theorem publish_qos0_unencodable (w : World) (p : Nat) (t : PyStr) (pl : Payload) (r : Bool)
    (hal : allowed w p 4 = true) (e : Err) (he : encodePublishPy t pl 0 r none = .error e) :
    apiPublish p t pl 0 r w = (refusedWith w (.retFail e), none) := by
  simp [apiPublish, Step.read, hal, he, emit, World.emit, Step.mod, refusedWith]

/-- QoS 1/2: the identifier has been allocated already; apart from the counter nothing changes -/
theorem publish_qos12_unencodable (w : World) (p : Nat) (t : PyStr) (pl : Payload) (q : Int) (r : Bool)
    (hal : allowed w p 4 = true) (hq : q = 1 ∨ q = 2) (e : Err)
    (he : ∀ i : Nat, encodePublishPy t pl q.toNat r (some (i : Int)) = .error e) :
    apiPublish p t pl q r w =
      ({ w with nextId := scanId w 65535 w.nextId, idAllocs := w.idAllocs + 1, log := w.log ++ [.retFail e] }, none) := by
  have h1 : (0 ≤ q ∧ q < 3) := by omega
  have h2 : ¬ q = 0 := by omega
  simp [apiPublish, Step.read, hal, h1, h2, makeId, Step.seq, Step.mod, he, emit, World.emit]

/-- what cannot be encoded fails with ValueError or TypeError -/
theorem publish_error_class (t : PyStr) (pl : Payload) (q : Nat) (r : Bool) (m : Option Int) (e : Err)
    (hq : q < 3) (hm : ∀ i, m = some i → 0 ≤ i ∧ i < 65536) (hmq : q ≠ 0 → m ≠ none)
    (he : encodePublishPy t pl q r m = .error e) : e.isValueOrType = true := by
  unfold encodePublishPy at he
  cases t with
  | str s => exact PublishF.encode_err he
  | none | other =>
    dsimp only at he
    split at he
    · refine Post.err (Q := fun _ : Bytes => True) (.bind (.of_err fun _ => byte_err) fun _ _ => ?_) he
      exact rfl
    · cases he
      rfl

/-! ### subscribe() / unsubscribe() -/

theorem subscribe_wrong_type (w : World) (p : Nat) (q : Int) (hal : allowed w p 2 = true)
    (hwin : Ents.count w.ents (w.paddr p) .sub < (w.proto p).window) :
    apiSubscribe p .other q w = (refusedWith w (.retFail .type), none) := by
  have : ¬ (Ents.count w.ents (w.paddr p) .sub ≥ (w.proto p).window) := by omega
  simp [apiSubscribe, Step.read, hal, this, emit, World.emit, Step.mod, refusedWith]

theorem subscribe_bad_qos (w : World) (p : Nat) (s : String) (q : Int) (hal : allowed w p 2 = true)
    (hwin : Ents.count w.ents (w.paddr p) .sub < (w.proto p).window) (h : ¬ (0 ≤ q ∧ q < 3)) :
    apiSubscribe p (.str s) q w = (refusedWith w (.retFail .value), none) := by
  have : ¬ (Ents.count w.ents (w.paddr p) .sub ≥ (w.proto p).window) := by omega
  have h' : q < 0 ∨ 3 ≤ q := by omega
  simp [apiSubscribe, Step.read, hal, this, h', emit, World.emit, Step.mod, refusedWith]

/-- a call made with the window full fails with MQTTWindowError and changes nothing (C07) -/
theorem subscribe_window_full (w : World) (p : Nat) (a : SubArg) (q : Int) (hal : allowed w p 2 = true)
    (hwin : Ents.count w.ents (w.paddr p) .sub ≥ (w.proto p).window) :
    apiSubscribe p a q w = (refusedWith w (.retFail .window), none) := by
  simp [apiSubscribe, Step.read, hal, hwin, emit, World.emit, Step.mod, refusedWith]

theorem unsubscribe_wrong_type (w : World) (p : Nat) (hal : allowed w p 3 = true)
    (hwin : Ents.count w.ents (w.paddr p) .unsub < (w.proto p).window) :
    apiUnsubscribe p .other w =
      ({ w with nextId := scanId w 65535 w.nextId, idAllocs := w.idAllocs + 1, log := w.log ++ [.retFail .type] }, none) := by
  have : ¬ (((w.protos.get? p).getD default).window ≤ Ents.count w.ents ((w.protos.get? p).getD default).addr .unsub) := by
    simp only [World.paddr, World.proto] at hwin; omega
  simp [apiUnsubscribe, Step.read, hal, makeId, Step.seq, Step.mod, World.paddr, World.proto, emit, World.emit, this]

/-- an empty topic list is refused: a SUBSCRIBE / UNSUBSCRIBE must name at least one topic [MQTT-3.8.3-3, 3.10.3-2], so nothing
    may be written for it (C18; repaired defect F-25) -/
theorem subscribe_empty_list (w : World) (p : Nat) (q : Int) (hal : allowed w p 2 = true)
    (hwin : Ents.count w.ents (w.paddr p) .sub < (w.proto p).window) :
    apiSubscribe p (.list []) q w = (refusedWith w (.retFail .value), none) := by
  have : ¬ (Ents.count w.ents (w.paddr p) .sub ≥ (w.proto p).window) := by omega
  simp [apiSubscribe, Step.read, hal, this, emit, World.emit, Step.mod, refusedWith]

theorem unsubscribe_empty_list (w : World) (p : Nat) (hal : allowed w p 3 = true)
    (hwin : Ents.count w.ents (w.paddr p) .unsub < (w.proto p).window) :
    apiUnsubscribe p (.list []) w =
      ({ w with nextId := scanId w 65535 w.nextId, idAllocs := w.idAllocs + 1, log := w.log ++ [.retFail .value] }, none) := by
  have : ¬ (((w.protos.get? p).getD default).window ≤ Ents.count w.ents ((w.protos.get? p).getD default).addr .unsub) := by
    simp only [World.paddr, World.proto] at hwin; omega
  simp [apiUnsubscribe, Step.read, hal, makeId, Step.seq, Step.mod, World.paddr, World.proto, emit, World.emit, this]

example : checkConnect { clientId := "c", keepalive := 65536, version := .v311, cleanStart := true } = false := by decide
example : checkConnect { clientId := "c", keepalive := 65535, version := .v311, cleanStart := true } = true := by decide
example : checkConnect { clientId := "cccccccccccccccccccccccc", keepalive := 0, version := .v31, cleanStart := true } = false := by
  decide
example : checkConnect { clientId := "c", keepalive := 0, version := .v311, cleanStart := true, password := some "x" } = false := by
  decide

end Mqtt.C20
