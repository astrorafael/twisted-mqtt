import MqttVerif.Proofs.FirstConnect
import MqttVerif.Props.C19b
import Mathlib.Util.CompileInductive
/-
  C19 on the wire, and a corollary for C14.  The dictionary layer (C19b), the object layer (C19b/C19c) and here the transports: an operation
  run by one protocol writes nothing to the transport of another one, in any state (no invariant, no `Env`); over histories of any length.
-/
namespace Mqtt.C19

/-- **an operation writes to its own transport only**: run by protocol `q` (an API call on it, bytes received on it, its loss report, one
    of its timers) or by none (building a protocol, the factory's counters, a handshake timeout), it writes nothing to the transport of
    any other protocol `p` -- of the same address or another -/
theorem others_never_write (p : Nat) (w : World) (op : Op) (hop : ∀ q, op.proto? w = some q → q ≠ p) :
    ∃ l, (step w op).log = w.log ++ l ∧ NoW p l := other_protocol_step p w op hop

/-- no operation of the history is run by `p` -/
def notBy (p : Nat) : World → List Op → Prop
  | _, [] => True
  | w, op :: r => (∀ q, op.proto? w = some q → q ≠ p) ∧ notBy p (step w op) r

/-- over histories: whatever the other protocols of the factory do, for however long, nothing appears on `p`'s transport -/
theorem others_never_write_history (p : Nat) : ∀ (ops : List Op) (w : World), notBy p w ops →
    ∃ l, (run w ops).log = w.log ++ l ∧ NoW p l := by
  intro ops w0 h
  refine run_induction (I := fun w => ∃ l, w.log = w0.log ++ l ∧ NoW p l) (G := notBy p) ?_ ops w0
    ⟨[], (List.append_nil _).symm, NoW.nil p⟩ h
  intro w op r ⟨l, hl, hn⟩ hG
  obtain ⟨l1, a1, a2⟩ := others_never_write p w op hG.1
  exact ⟨⟨l ++ l1, by rw [a1, hl, List.append_assoc], hn.append a2⟩, hG.2⟩

instance (p : Nat) (w : World) (ops : List Op) : Decidable (notBy p w ops) := by
  induction ops generalizing w with
  | nil => exact isTrue trivial
  | cons op r ih =>
    unfold notBy
    have : Decidable (∀ q, op.proto? w = some q → q ≠ p) := by
      cases h : op.proto? w with
      | none => exact isTrue (fun q hq => by cases hq)
      | some q0 =>
        by_cases hq : q0 = p
        · exact isFalse (fun hh => hh q0 rfl hq)
        · exact isTrue (fun q hq' => by injection hq' with hq'; rw [← hq']; exact hq)
    have := ih (step w op)
    infer_instance
/-- not vacuous: the nine operations run for address 1 in the demonstration history are not run by protocol 0, which has requests in flight -/
example : notBy 0 (run (World.init 3) twoUp) onOne := by decide +kernel

end Mqtt.C19

namespace Mqtt.C14

/-- **the IDLE state honours connect() and nothing else**, for every profile value: read off the dispatch matrix regenerated from the
    state classes of the source on every run -/
theorem idle_honours_connect_only (w : World) (p k : Nat) (hi : (w.proto p).state = .idle) (h : allowed w p k = true) : k = 0 :=
  idle_allows_connect_only w p k hi h

end Mqtt.C14
