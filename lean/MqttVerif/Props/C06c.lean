import MqttVerif.Proofs.Heads
import MqttVerif.Props.C15b
/-
  Which operation may put which packet type on a wire, for every history (no invariant beyond `HeadInv`, which holds in every state
  reachable from a fresh factory; no assumption on the environment).
  C06, last sentence: "the client never emits these acknowledgements unprompted" -- PUBACK/PUBREC/PUBCOMP are written only while bytes
  received from the broker are processed.  C18: "no broker-only packet type ever appears", "a DISCONNECT is written only by
  disconnect()"; and likewise a CONNECT only by connect(), a PINGREQ only by a timer or when the CONNACK starts the keepalive.
  Behind it: the stored bytes of every request object start with a request header (PUBLISH, PUBREL, SUBSCRIBE, UNSUBSCRIBE) and only
  bit 3 of that byte (DUP) is ever patched -- so retransmissions, window refills and session resumptions write request packets only.
-/
namespace Mqtt.C06

/-- `Op.ptypes` read by packet type: an acknowledgement of an inbound message comes from received bytes, a PINGREQ from there or
    from a timer, a CONNECT and a DISCONNECT from their calls, and the broker's types and 15 from nowhere -/
theorem ptypes_origin {op : Op} {t : Nat} (h : t ∈ op.ptypes) :
    ((∃ p d, op = .recv p d) ∨ t ≠ 4 ∧ t ≠ 5 ∧ t ≠ 7) ∧ (t = 12 → (∃ t, op = .fire t) ∨ ∃ p d, op = .recv p d) ∧
    (t = 1 → ∃ p a, op = .connect p a) ∧ (t = 14 → ∃ p, op = .disconnect p) ∧
    t ≠ 2 ∧ t ≠ 9 ∧ t ≠ 11 ∧ t ≠ 13 ∧ t ≠ 15 := by
  have hreq : ∀ t ∈ [0, 3, 6, 8, 10], (t ≠ 4 ∧ t ≠ 5 ∧ t ≠ 7) ∧ t ≠ 12 ∧ t ≠ 1 ∧ t ≠ 14 ∧ t ≠ 2 ∧ t ≠ 9 ∧ t ≠ 11 ∧ t ≠ 13 ∧ t ≠ 15 := by
    decide
  cases op with
  | recv p d =>
    have := (by decide : ∀ t ∈ [0, 3, 6, 8, 10, 4, 5, 7, 12], t ≠ 1 ∧ t ≠ 14 ∧ t ≠ 2 ∧ t ≠ 9 ∧ t ≠ 11 ∧ t ≠ 13 ∧ t ≠ 15) t h
    exact ⟨.inl ⟨p, d, rfl⟩, fun _ => .inr ⟨p, d, rfl⟩, fun e => absurd e this.1, fun e => absurd e this.2.1, this.2.2⟩
  | fire f =>
    have := (by decide : ∀ t ∈ [0, 3, 6, 8, 10, 12],
      (t ≠ 4 ∧ t ≠ 5 ∧ t ≠ 7) ∧ t ≠ 1 ∧ t ≠ 14 ∧ t ≠ 2 ∧ t ≠ 9 ∧ t ≠ 11 ∧ t ≠ 13 ∧ t ≠ 15) t h
    exact ⟨.inr this.1, fun _ => .inl ⟨f, rfl⟩, fun e => absurd e this.2.1, fun e => absurd e this.2.2.1, this.2.2.2⟩
  | connect p a =>
    cases List.mem_singleton.mp h
    exact ⟨.inr (by decide), nofun, fun _ => ⟨p, a, rfl⟩, nofun, by decide⟩
  | disconnect p =>
    cases List.mem_singleton.mp h
    exact ⟨.inr (by decide), nofun, nofun, fun _ => ⟨p, rfl⟩, by decide⟩
  | _ =>
    have := hreq t h
    exact ⟨.inr this.1, fun e => absurd e this.2.1, fun e => absurd e this.2.2.1, fun e => absurd e this.2.2.2.1, this.2.2.2.2⟩

/-- the types of the packets an operation has added to the log, after any history -/
theorem written_types_of {profile : Nat} {ops : List Op} {op : Op} {l : List Obs}
    (hl : (step (run (World.init profile) ops) op).log = (run (World.init profile) ops).log ++ l) {q : Nat} {bs : Bytes}
    (ho : Obs.write q bs ∈ l) : ptype bs ∈ op.ptypes := by
  obtain ⟨_, l', h1, h2⟩ := step_heads _ (run_heads ops _ (HeadInv.init profile)) op
  cases List.append_cancel_left (hl.symm.trans h1)
  exact pkts_ptype op bs (h2 q bs ho)

/-- the packets one operation writes, after any history: their types are among those the operation may write -/
theorem written_types (profile : Nat) (ops : List Op) (op : Op) :
    ∃ l, (step (run (World.init profile) ops) op).log = (run (World.init profile) ops).log ++ l ∧
      ∀ q bs, Obs.write q bs ∈ l → ptype bs ∈ op.ptypes := by
  obtain ⟨_, l, h1, _⟩ := step_heads _ (run_heads ops _ (HeadInv.init profile)) op
  exact ⟨l, h1, fun _ _ => written_types_of h1⟩

/-- **never unprompted**: after any history, an API call, a timer, a loss report -- anything but received bytes -- writes no
    PUBACK (4), PUBREC (5) or PUBCOMP (7) -/
theorem never_unprompted (profile : Nat) (ops : List Op) (op : Op) (hop : ∀ p d, op ≠ .recv p d) :
    ∃ l, (step (run (World.init profile) ops) op).log = (run (World.init profile) ops).log ++ l ∧
      ∀ q bs, Obs.write q bs ∈ l → ptype bs ≠ 4 ∧ ptype bs ≠ 5 ∧ ptype bs ≠ 7 := by
  obtain ⟨l, h1, h2⟩ := written_types profile ops op
  exact ⟨l, h1, fun q bs ho => (ptypes_origin (h2 q bs ho)).1.resolve_left fun ⟨p, d, e⟩ => hop p d e⟩

/-- the same, read the other way: an acknowledgement of an inbound PUBLISH or PUBREL on the wire was written while bytes
    received from the broker were being processed -/
theorem ack_only_while_receiving (profile : Nat) (ops : List Op) (op : Op) (l : List Obs)
    (hl : (step (run (World.init profile) ops) op).log = (run (World.init profile) ops).log ++ l)
    (q : Nat) (bs : Bytes) (ho : Obs.write q bs ∈ l) (ha : ptype bs = 4 ∨ ptype bs = 5 ∨ ptype bs = 7) : ∃ p d, op = .recv p d :=
  (ptypes_origin (written_types_of hl ho)).1.resolve_right (by omega)

/-- a connected client that receives a QoS 1 PUBLISH does write a PUBACK (the statements above are about something) -/
example : (step (run (World.init 3) C15.kaDemo) (.recv 0 [0x32, 6, 0, 1, 0x61, 0, 7, 0x78])).log.getLast? = some (.pub 0 ⟨"a", [0x78], 1, false, false, some 7⟩)
    ∧ Obs.write 0 [0x40, 2, 0, 7] ∈ (step (run (World.init 3) C15.kaDemo) (.recv 0 [0x32, 6, 0, 1, 0x61, 0, 7, 0x78])).log
    ∧ ptype [0x40, 2, 0, 7] = 4 := by decide +kernel

end Mqtt.C06

namespace Mqtt.C18

/-- **no broker-only packet type ever appears**: after any history, whatever the operation, no packet handed to a transport is
    a CONNACK (2), SUBACK (9), UNSUBACK (11) or PINGRESP (13), or carries a reserved type (15; 0 only for no bytes at all) -/
theorem no_broker_packet (profile : Nat) (ops : List Op) (op : Op) :
    ∃ l, (step (run (World.init profile) ops) op).log = (run (World.init profile) ops).log ++ l ∧
      ∀ q bs, Obs.write q bs ∈ l → ptype bs ≠ 2 ∧ ptype bs ≠ 9 ∧ ptype bs ≠ 11 ∧ ptype bs ≠ 13 ∧ ptype bs ≠ 15 := by
  obtain ⟨l, h1, h2⟩ := C06.written_types profile ops op
  exact ⟨l, h1, fun q bs ho => (C06.ptypes_origin (h2 q bs ho)).2.2.2.2⟩

/-- **a DISCONNECT is written only by disconnect()** -/
theorem disconnect_only_by_disconnect (profile : Nat) (ops : List Op) (op : Op) (l : List Obs)
    (hl : (step (run (World.init profile) ops) op).log = (run (World.init profile) ops).log ++ l)
    (q : Nat) (bs : Bytes) (ho : Obs.write q bs ∈ l) (hd : ptype bs = 14) : ∃ p, op = .disconnect p :=
  (C06.ptypes_origin (C06.written_types_of hl ho)).2.2.2.1 hd

/-- a CONNECT is written only by connect() (how often: see the known findings KF-1/KF-2 for connect() on a lost protocol) -/
theorem connect_only_by_connect (profile : Nat) (ops : List Op) (op : Op) (l : List Obs)
    (hl : (step (run (World.init profile) ops) op).log = (run (World.init profile) ops).log ++ l)
    (q : Nat) (bs : Bytes) (ho : Obs.write q bs ∈ l) (hd : ptype bs = 1) : ∃ p a, op = .connect p a :=
  (C06.ptypes_origin (C06.written_types_of hl ho)).2.2.1 hd

/-- a PINGREQ is written only by a timer, or while received bytes are processed (the CONNACK starts the keepalive): never by an API call -/
theorem pingreq_only_from_reactor (profile : Nat) (ops : List Op) (op : Op) (l : List Obs)
    (hl : (step (run (World.init profile) ops) op).log = (run (World.init profile) ops).log ++ l)
    (q : Nat) (bs : Bytes) (ho : Obs.write q bs ∈ l) (hd : ptype bs = 12) : (∃ t, op = .fire t) ∨ ∃ p d, op = .recv p d :=
  (C06.ptypes_origin (C06.written_types_of hl ho)).2.1 hd

/-- every request object of every reachable state holds a PUBLISH, PUBREL, SUBSCRIBE or UNSUBSCRIBE (or no bytes yet): what a
    retransmission timer, a window refill or a session resumption will put on the wire -/
theorem stored_requests_are_requests (profile : Nat) (ops : List Op) (rid : Nat) (r : Req)
    (h : (run (World.init profile) ops).reqs.get? rid = some r) : r.encoded = [] ∨ reqHead r.encoded = true := by
  have := run_heads ops _ (HeadInv.init profile) rid r h
  simp only [headOk, Bool.or_eq_true, List.isEmpty_iff] at this
  exact this

/-- not vacuous: disconnect() on the connected demonstration client writes a packet of type 14, and its keepalive timer one of type 12 -/
example : Obs.write 0 [0xE0, 0] ∈ (step (run (World.init 3) C15.kaDemo) (.disconnect 0)).log ∧ ptype [0xE0, 0] = 14
    ∧ (step (run (World.init 3) C15.kaDemo) (.fire 2)).log.getLast? = some (Obs.write 0 [0xC0, 0]) ∧ ptype [0xC0, 0] = 12 := by decide +kernel

end Mqtt.C18
