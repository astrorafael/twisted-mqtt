import MqttVerif.Proofs.ProtoFrame
/-
  C10: every protocol object has a window of at least one message (the constructor's 1, `setWindowSize` accepts 1..16 only) -- the premise
  under which a refill that stops with messages still held back has filled the window.  No invariant, no `Env`.
-/
namespace Mqtt

def WPos (w : World) : Prop := ∀ p, 1 ≤ (w.proto p).window

theorem protoRel_wpos (p : Nat) : ProtoRel p fun w w' => WPos w → WPos w' where
  trans h1 h2 h := h2 (h1 h)
  same e h q := by
    rw [World.proto, e]
    exact h q
  set g hg w h q := by
    show 1 ≤ (((w.protos.set p (g (w.proto p))).get? q).getD default).window
    rw [Dict.get?_set]
    split
    · exact hg _ (h p)
    · exact h q

theorem wpos_step (w : World) (h : WPos w) (op : Op) : WPos (step w op) := by
  by_cases hb : ∃ a, op = .build a
  · obtain ⟨a, rfl⟩ := hb
    intro q
    show 1 ≤ (((w.protos.set w.nextProto { addr := a }).get? q).getD default).window
    rw [Dict.get?_set]
    split
    · exact Nat.le_refl 1
    · exact h q
  · refine (protoRel_wpos ((op.proto? w).getD 0)).step w op (fun q e => ?_) (fun a e => hb ⟨a, e⟩) h
    rw [e]
    rfl
theorem wpos_init (profile : Nat) : WPos (World.init profile) := fun p => by
  show 1 ≤ ((default : Proto)).window
  exact Nat.le_refl 1
theorem wpos_run (ops : List Op) (w : World) (h : WPos w) : WPos (run w ops) :=
  run_invariant WPos (fun w op h => wpos_step w h op) ops w h

end Mqtt
