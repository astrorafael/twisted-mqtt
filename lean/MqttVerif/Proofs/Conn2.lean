import MqttVerif.Proofs.Conn
import MqttVerif.Proofs.Keeps
import MqttVerif.Props.C14
/-
  CONNACK: `mqttConnectionMade`, the start of the keepalive loop, and the handler as a whole.
-/
namespace Mqtt

variable {x : Option Nat} {w : World} {p : Nat} {ppr : Proto}

theorem armed_of_parts {a : Nat} (h1 : ArmedIn (fun b => b = .pub ∨ b = .rel) w a)
    (h2 : ArmedIn (fun b => b = .sub ∨ b = .unsub) w a) : Armed w a := by
  intro e he hea hq
  cases hb : e.box with
  | queue => exact absurd hb hq
  | pub => exact h1 e he hea (Or.inl hb)
  | rel => exact h1 e he hea (Or.inr hb)
  | sub => exact h2 e he hea (Or.inl hb)
  | unsub => exact h2 e he hea (Or.inr hb)

theorem mqttConnectionMade_inv (h : WInvX x w) (hpp : w.protos.get? p = some ppr) (hlive : ppr.lost = false)
    (hsub : ArmedIn (fun b => b = .sub ∨ b = .unsub) w ppr.addr) :
    Step.Returns (mqttConnectionMade p) w fun w' =>
      WInvX x w' ∧ w'.protos = w.protos ∧ w'.connReqs = w.connReqs ∧ Armed w' ppr.addr ∧ KQ w w' := by
  have hpa : w.paddr p = ppr.addr := paddr_of_get? hpp
  have h1 : Step.Returns (if (w.proto p).cleanStart then purgeSession p .sessionCleared else syncSession p) w fun w1 =>
      WInvX x w1 ∧ w1.protos = w.protos ∧ w1.connReqs = w.connReqs ∧ Armed w1 ppr.addr ∧ KQ w w1 := by
    split
    · obtain ⟨a1, a2, a3, a4, _, a6, a7, _, a9, a10, a11, a12⟩ := purgeSession_inv h p .sessionCleared
      have hr := req_of_reqs a3
      exact ⟨a1, a2, a4, a6, armed_of_parts (hpa ▸ a9) (hsub.mono a7 fun r hr' => by rw [hr]; exact hr'), fun hq0 =>
        ⟨keeps_removed (fun r => by rw [hr]) a6 a10 a11 a12, q0_removed (fun r => by rw [hr]; exact ⟨rfl, rfl, rfl⟩) a7 hq0⟩⟩
    · obtain ⟨a1, a2, a3, a4, a5, a6⟩ := syncW_inv h p ppr hpp hlive
      exact .of_eq rfl ⟨a1, a2, a6, armed_of_parts a5 (hsub.mono (fun y hy => a3 ▸ hy) a4), (syncW_same p w).kq⟩
  refine .read (.seq h1 fun w1 ⟨hi1, hp1, hc1, ha1, hk1⟩ => .seq_eq rfl (.read ?_))
  have hpp1 : w1.protos.get? p = some ppr := hp1 ▸ hpp
  obtain ⟨hi2, hp2⟩ := refillW_inv (x := x) p false ppr (Ents.count w1.ents (w1.paddr p) .queue) hi1 hpp1 hlive
  have hk2 := hk1.trans (refillW_keeps (x := x) p false ppr hlive (Ents.count w1.ents (w1.paddr p) .queue) hi1 hpp1)
  have ha2 := refillW_armed p false ppr.addr (Ents.count w1.ents (w1.paddr p) .queue) ha1
  have hc2 := (refillW_connReqs p false (Ents.count w1.ents (w1.paddr p) .queue) w1).trans hc1
  split
  · exact .of_eq rfl ⟨emit_inv hi2 _, hp2.trans hp1, hc2, ha2, hk2.trans (emit_same _ _).kq⟩
  · exact .of_eq rfl ⟨hi2, hp2.trans hp1, hc2, ha2, hk2⟩

structure PingFrame (w w' : World) (p : Nat) (ppr : Proto) : Prop where
  ents : w'.ents = w.ents
  reqs : w'.reqs = w.reqs
  connReqs : w'.connReqs = w.connReqs
  fired : w'.fired = w.fired
  nextDfd : w'.nextDfd = w.nextDfd
  proto : ∃ ppr', w'.protos.get? p = some ppr' ∧ ppr'.addr = ppr.addr ∧ ppr'.state = ppr.state ∧ ppr'.lost = ppr.lost ∧
    ppr'.connReq = ppr.connReq ∧ ppr'.onDisc = ppr.onDisc ∧ ppr'.cleanStart = ppr.cleanStart

theorem ping_inv (h : WInvX x w) (hpp : w.protos.get? p = some ppr) (hs : ppr.state = .connected) (hnl : ppr.lost = false)
    (k : Nat) (hk : ppr.pingKeepalive = some k) :
    Step.Returns (ping p) w fun w' => WInvX x w' ∧ PingFrame w w' p ppr ∧
      ∃ ppr', w'.protos.get? p = some ppr' ∧ ppr'.pingTimer = ppr.pingTimer := by
  have hal : allowed w p 5 = true := by
    rw [C14.allowed_eq_honoured w p 5 h.profileOk (by omega), getD_of_get? hpp, hs]; rfl
  simp only [ping, Step.returns_read, hal, ↓reduceIte, doPingRequest]
  refine .seq_eq (write_apply p encodePINGREQ w) ?_
  simp only [Step.returns_read, getD_of_get? (w := w.emit _) hpp]
  cases hpa : ppr.pingAlarm with
  | some t => exact .of_eq rfl ⟨emit_inv h _, ⟨rfl, rfl, rfl, rfl, rfl, ppr, hpp, rfl, rfl, rfl, rfl, rfl, rfl⟩, ppr, hpp, rfl⟩
  | none =>
    simp only [↓reduceIte, hk, callLater, Step.returns_read]
    have hg : ∀ npr, (pingArmW w p ppr (w.now + ticks k) (w.log ++ [.write p encodePINGREQ])).protos.get? p = some npr ↔
        npr = { ppr with pingAlarm := some w.nextTimer } := by simp [pingArmW, Dict.get?_set, eq_comm]
    exact .seq_eq rfl (.of_eq (setProto_eq hpp)
      ⟨pingArm_inv h hpp hpa hnl _ _, ⟨rfl, rfl, rfl, rfl, rfl, _, (hg _).mpr rfl, rfl, rfl, rfl, rfl, rfl, rfl⟩, _, (hg _).mpr rfl, rfl⟩)

theorem loopRun_inv {x : Option Nat} {w : World} (h : WInvX x w) (p : Nat) (ppr : Proto) (hpp : w.protos.get? p = some ppr)
    (hnl : ppr.lost = false) (l : Loop) (hl : ppr.pingTimer = some l) (hcall : l.call = none) :
    (loopRun p w).2 = none ∧ WInvX x (loopRun p w).1 ∧ PingFrame w (loopRun p w).1 p ppr := by
  obtain ⟨b1, b2, b3, _⟩ := h.pingTimer p ppr l hpp hl
  obtain ⟨k, hk⟩ : ∃ k, ppr.pingKeepalive = some k := Option.ne_none_iff_exists'.mp b3
  show Step.Returns (loopRun p) w fun w' => WInvX x w' ∧ PingFrame w w' p ppr
  refine .attempt (ping_inv h hpp b2 hnl k hk) fun w1 ⟨a2, a3, ppr1, a4, a5⟩ => ?_
  obtain ⟨ppr', c1, c2⟩ := a3.proto
  cases a4.symm.trans c1
  have hl1 : ppr1.pingTimer = some l := a5.trans hl
  simp only [Step.returns_read, getD_of_get? a4, hl1, b1, ↓reduceIte, callLater]
  have hg : (loopSchedW w1 p ppr1 l (w1.now + ticks l.interval)).protos.get? p =
      some { ppr1 with pingTimer := some { l with call := some w1.nextTimer } } := by simp [loopSchedW, Dict.get?_set]
  refine .seq_eq rfl (.of_eq (setProto_eq a4) ?_)
  rw [hl1]
  exact ⟨loopSched_inv a2 a4 l hl1 hcall _, a3.ents, a3.reqs, a3.connReqs, a3.fired, a3.nextDfd, _, hg, c2⟩

theorem connDone_kq (w : World) (p : Nat) (pr : Proto) (d : Nat) (o : Obs) : KQ w (connDoneW w p pr d o) := fun hq =>
  ⟨keeps_fire rfl (fun _ => rfl) rfl rfl fun _ hd' => List.mem_cons_of_mem _ hd', q0_core (w := w) rfl (fun _ => ⟨rfl, rfl, rfl⟩) hq⟩

theorem handleCONNACK_full {w : World} (h : WInv w) (p : Nat) (ppr : Proto) (hpp : w.protos.get? p = some ppr)
    (hnl : ppr.lost = false) (hs : ppr.state = .connecting) (session : Bool) (rc : Nat) :
    (handleCONNACK p session rc w).2 = none ∧ WInv (handleCONNACK p session rc w).1 ∧
    (Q0 w → Keeps w (handleCONNACK p session rc w).1 ∧ Q0 (handleCONNACK p session rc w).1) := by
  show Step.Returns _ w fun w' => WInv w' ∧ KQ w w'
  obtain ⟨cr, c, i1, i2, ip, i3⟩ := h.connecting p ppr hpp hs
  simp only [handleCONNACK, Step.returns_read, getD_of_get? hpp, i1, i2]
  cases hd : c.dfd with
  | none => exact .of_eq rfl ⟨h, KQ.refl w⟩
  | some d =>
    have hkA : ∀ tm st, KQ w (acceptW w p ppr c.alarm tm st) := fun _ _ =>
      CoreSame.kq ⟨rfl, rfl, rfl, rfl, fun _ => ⟨rfl, rfl, rfl⟩⟩
    by_cases hrc : rc = 0
    · simp only [hrc, ↓reduceIte, seq_assoc]
      have hpt := h.noLoop_of_state hpp (by simp [hs])
      obtain ⟨tm, htm, hts, hA⟩ := accept_inv (WInvX.weaken (x := some p) h) hpp hs .connected (Or.inr ⟨rfl, rfl⟩) cr c i1 i2 d hd
      have hppA : (acceptW w p ppr c.alarm tm .connected).protos.get? p = some { ppr with state := .connected } := by
        simp [acceptW, Dict.get?_set]
      have hsub : ArmedIn (fun b => b = .sub ∨ b = .unsub) w ppr.addr := fun e he _ hb ha =>
        nomatch (h.subArmed e he hb ha).choose_spec.choose_spec.1
      refine .seq_eq (cancelTimer_at w c.alarm tm htm hts) (.seq_eq (setProto_eq hpp)
        (.seq (mqttConnectionMade_inv hA hppA hnl hsub) fun wM ⟨m2, m3, m4, m5, m6⟩ => ?_))
      have hppM : wM.protos.get? p = some { ppr with state := .connected } := m3 ▸ hppA
      refine .seq (Q := fun wR => WInvX (some p) wR ∧ PingFrame wM wR p { ppr with state := .connected }) ?_ fun wR ⟨hR, fr⟩ => ?_
      · split
        · refine .seq_eq (setProto_eq hppM) ?_
          have hppL : (loopOnW wM p { ppr with state := .connected } c.keepalive).protos.get? p =
              some { ppr with state := .connected, pingKeepalive := some c.keepalive, pingTimer := some ⟨true, c.keepalive, none⟩ } := by
            simp [loopOnW, Dict.get?_set]
          obtain ⟨q1, q2, q3⟩ := loopRun_inv (loopOn_inv m2 hppM rfl hpt c.keepalive) p _ hppL hnl
            ⟨true, c.keepalive, none⟩ rfl rfl
          exact ⟨q1, q2, q3.ents, q3.reqs, q3.connReqs, q3.fired, q3.nextDfd, q3.proto⟩
        · exact .of_eq rfl ⟨m2, rfl, rfl, rfl, rfl, rfl, _, hppM, rfl, rfl, rfl, rfl, rfl, rfl⟩
      obtain ⟨pprR, f1, f2, f3, f4, f5, _⟩ := fr.proto
      have haR : Armed wR ppr.addr := fun e he hea hq => by
        rw [req_of_reqs fr.reqs]
        exact m5 e (fr.ents ▸ he) hea hq
      refine (connDone_inv hR f1 (by simp [f3]) cr c (f5.trans i1) (by rw [fr.connReqs, m4]; exact i2) d hd (f4.trans hnl) _).mono ?_
      rintro _ ⟨rfl, t2⟩
      have hadd : ∀ pr, (connDoneW wR p pprR d (.fired d (.ok (.bool session)))).protos.get? p = some pr → pr.addr = ppr.addr := fun pr hpr => by
        rw [show (connDoneW wR p pprR d _).protos.get? p = some { pprR with connReq := none } by simp [connDoneW, Dict.get?_set]] at hpr
        cases hpr
        exact f2
      refine ⟨t2.close (fun pr hpr _ _ e he hea hq => haR e he (hea.trans (hadd pr hpr)) hq)
        fun pr hpr e he hb hea => haR e he (hea.trans (hadd pr hpr)) (by rcases hb with hb | hb <;> simp [hb]), ?_⟩
      exact (((hkA tm _).trans m6).trans (CoreSame.kq ⟨fr.ents, fr.fired, fr.connReqs, fr.nextDfd, fun r => by
        rw [req_of_reqs fr.reqs]; exact ⟨rfl, rfl, rfl⟩⟩)).trans (connDone_kq _ _ _ _ _)
    · simp only [hrc, ↓reduceIte, seq_assoc]
      obtain ⟨tm, htm, hts, hA⟩ := accept_inv h hpp hs .idle (Or.inl rfl) cr c i1 i2 d hd
      have hppA : (acceptW w p ppr c.alarm tm .idle).protos.get? p = some { ppr with state := .idle } := by
        simp [acceptW, Dict.get?_set]
      refine .seq_eq (cancelTimer_at w c.alarm tm htm hts) (.seq_eq (setProto_eq hpp)
        ((connDone_inv hA hppA (by simp) cr c i1 i2 d hd hnl _).mono ?_))
      rintro _ ⟨rfl, t2⟩
      exact ⟨t2, (hkA tm _).trans (connDone_kq _ _ _ _ _)⟩

theorem handleCONNACK_inv {w : World} (h : WInv w) (p : Nat) (ppr : Proto) (hpp : w.protos.get? p = some ppr)
    (hnl : ppr.lost = false) (hs : ppr.state = .connecting) (session : Bool) (rc : Nat) :
    (handleCONNACK p session rc w).2 = none ∧ WInv (handleCONNACK p session rc w).1 :=
  ⟨(handleCONNACK_full h p ppr hpp hnl hs session rc).1, (handleCONNACK_full h p ppr hpp hnl hs session rc).2.1⟩

end Mqtt
