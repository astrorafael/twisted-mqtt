import MqttVerif.Proofs.Api
/-
  The main theorem of the session layer: under the environment assumptions `Env`, every operation
  preserves the invariant `WInv`, and the entry points driven by the reactor (dataReceived,
  connectionLost, timer callbacks) never let an exception escape.  By induction the same holds in
  every state reachable from a fresh factory.
-/
namespace Mqtt

/-- C16 (first half): under the environment assumptions no exception escapes from the data-receiving entry
    point, from connectionLost or from a timer -/
theorem no_escape {w : World} (h : WInv w) (op : Op) (henv : Env w op) (hr : op.isReactor = true) : (op.handler w).2 = none := by
  cases op with
  | recv p d =>
    obtain ⟨⟨ppr, hpp, hnl⟩, hd⟩ := henv
    exact (dataReceived_inv h p ppr hpp hnl d hd).1
  | lost p r =>
    obtain ⟨ppr, hpp, hnl⟩ := henv
    exact (connectionLost_inv h p ppr hpp hnl r).1
  | fire t => exact (fireTimer_inv h t).1
  | _ => cases hr

theorem step_inv {w : World} (h : WInv w) (op : Op) (henv : Env w op) : WInv (step w op) := by
  -- neither the log nor the jitter is mentioned by the invariant
  have hside : ∀ {w : World} l j, WInv w → WInv { w with log := l, jitter := j } := fun _ _ h =>
    h.sameCore (sameCore_fields _ _ rfl rfl rfl rfl rfl rfl rfl h.idCounter rfl rfl rfl rfl rfl rfl)
  have hw : WInv (op.handler w).1 := by
    cases op with
    | build a => exact (buildProtocol_inv h a henv).2
    | sethandlers p m => exact (apiSetHandlers_inv h p m henv).2
    | connect p a => exact apiConnect_inv h p a henv
    | disconnect p => exact apiDisconnect_inv h p
    | publish p t pl q r => exact (apiPublish_inv h p t pl q r henv.1 henv.2).2
    | subscribe p a q => exact (apiSubscribe_inv h p a q henv.1 henv.2).2
    | unsubscribe p a => exact (apiUnsubscribe_inv h p a henv.1 henv.2).2
    | setwin p n => exact apiSetWindow_inv h p n henv
    | settimeout p n => exact apiSetTimeout_inv h p n henv
    | setbw p b f => exact apiSetBandwith_inv h p b f henv
    | jit v => exact hside w.log v h
    | setid v => exact absurd henv id
    | recv p d =>
      obtain ⟨⟨ppr, hpp, hnl⟩, hd⟩ := henv
      exact (dataReceived_inv h p ppr hpp hnl d hd).2
    | lost p r =>
      obtain ⟨ppr, hpp, hnl⟩ := henv
      exact (connectionLost_inv h p ppr hpp hnl r).2
    | fire t => exact (fireTimer_inv h t).2
  rcases step_eq w op with e | ⟨_, e⟩ <;> rw [e]
  · exact hw
  · exact hside _ _ hw

def EnvRun : World → List Op → Prop
  | _, [] => True
  | w, op :: rest => Env w op ∧ EnvRun (step w op) rest

theorem run_inv : ∀ (ops : List Op) {w : World}, WInv w → EnvRun w ops → WInv (run w ops) :=
  fun ops _ => run_induction (G := EnvRun) (fun _ op _ h g => ⟨step_inv h op g.1, g.2⟩) ops _

theorem reachable_inv (profile : Nat) (hp : profile = 1 ∨ profile = 2 ∨ profile = 3) (ops : List Op)
    (henv : EnvRun (World.init profile) ops) : WInv (run (World.init profile) ops) :=
  run_inv ops (WInv.init profile hp) henv

/-- C16 (first half) at every point of a history from a fresh factory -/
theorem reachable_no_escape (profile : Nat) (hp : profile = 1 ∨ profile = 2 ∨ profile = 3) (ops : List Op) (op : Op)
    (henv : EnvRun (World.init profile) (ops ++ [op])) (hr : op.isReactor = true) :
    (op.handler (run (World.init profile) ops)).2 = none := by
  have hsplit : ∀ (l : List Op) (w : World), EnvRun w (l ++ [op]) → EnvRun w l ∧ Env (run w l) op := by
    intro l
    induction l with
    | nil => intro w h; exact ⟨trivial, h.1⟩
    | cons o r ih => intro w h; exact ⟨⟨h.1, (ih _ h.2).1⟩, (ih _ h.2).2⟩
  obtain ⟨h1, h2⟩ := hsplit ops _ henv
  exact no_escape (reachable_inv profile hp ops h1) op h2 hr

end Mqtt
