import MqttVerif.Proofs.Session3
/-
  "No Deferred is left hanging": every Deferred that has been handed to the application and has not fired is still
  owned by an unfinished request (an entry of some container) or by a handshake record -- nothing is silently dropped.
  Stated as an invariant `Owned` and shown to be preserved with the help of a summary relation `Keeps w w'` between the
  world before and after a (composite) transition.
-/
namespace Mqtt

/-- some unfinished request or handshake record holds Deferred `d` -/
def OwnedBy (w : World) (d : Nat) : Prop :=
  (∃ e ∈ w.ents, (w.req e.rid).dfd = some d) ∨ (∃ cr c, w.connReqs.get? cr = some c ∧ c.dfd = some d)

/-- every allocated, unfired Deferred has an owner -/
def Owned (w : World) : Prop := ∀ d, d < w.nextDfd → d ∉ w.fired → OwnedBy w d

/-- the QoS level recorded in the request an entry refers to fits the container: only QoS 2 exchanges are in the release window, the
    publish window holds QoS 1 and QoS 2 messages, a held-back message has an identifier exactly when its QoS is not 0 -/
def QosOk (w : World) (e : Ent) : Prop :=
  (e.box = .rel → (w.req e.rid).qos = 2) ∧ (e.box = .pub → (w.req e.rid).qos = 1 ∨ (w.req e.rid).qos = 2) ∧
  (e.box = .queue → ((w.req e.rid).msgId = 0 ↔ (w.req e.rid).qos = 0) ∧ (w.req e.rid).qos < 3)

/-- requests without identifier (QoS 0) carry no Deferred; QoS levels fit the containers -/
def Q0 (w : World) : Prop := ∀ e ∈ w.ents, ((w.req e.rid).msgId = 0 → (w.req e.rid).dfd = none) ∧ QosOk w e

structure Keeps (w w' : World) : Prop where
  own : ∀ d, OwnedBy w d → d ∈ w'.fired ∨ OwnedBy w' d
  fmono : ∀ d ∈ w.fired, d ∈ w'.fired
  nd : w.nextDfd ≤ w'.nextDfd
  fresh : ∀ d, w.nextDfd ≤ d → d < w'.nextDfd → d ∈ w'.fired ∨ OwnedBy w' d

theorem Keeps.refl (w : World) : Keeps w w := ⟨fun _ h => Or.inr h, fun _ h => h, Nat.le_refl _, fun d h1 h2 => absurd h2 (by omega)⟩

theorem Keeps.trans {w1 w2 w3 : World} (a : Keeps w1 w2) (b : Keeps w2 w3) : Keeps w1 w3 := by
  refine ⟨fun d h => ?_, fun d h => b.fmono d (a.fmono d h), Nat.le_trans a.nd b.nd, fun d h1 h2 => ?_⟩
  · rcases a.own d h with h | h
    · exact Or.inl (b.fmono d h)
    · exact b.own d h
  · by_cases hd : d < w2.nextDfd
    · rcases a.fresh d h1 hd with h | h
      · exact Or.inl (b.fmono d h)
      · exact b.own d h
    · exact b.fresh d (by omega) h2

theorem Owned.keeps {w w' : World} (h : Owned w) (k : Keeps w w') : Owned w' := by
  intro d hd hnf
  by_cases hd0 : d < w.nextDfd
  · have hnf0 : d ∉ w.fired := fun hc => hnf (k.fmono d hc)
    rcases k.own d (h d hd0 hnf0) with h1 | h1
    · exact absurd h1 hnf
    · exact h1
  · rcases k.fresh d (by omega) hd with h1 | h1
    · exact absurd h1 hnf
    · exact h1

/-- summary of a transition for the Deferred bookkeeping, given that requests without identifier carry no Deferred -/
def KQ (w w' : World) : Prop := Q0 w → Keeps w w' ∧ Q0 w'

theorem KQ.refl (w : World) : KQ w w := fun h => ⟨Keeps.refl w, h⟩
theorem KQ.trans {a b c : World} (h1 : KQ a b) (h2 : KQ b c) : KQ a c := fun h =>
  ⟨(h1 h).1.trans (h2 (h1 h).2).1, (h2 (h1 h).2).2⟩

theorem q0_entry {w w' : World} {e : Ent} (hd : (w'.req e.rid).dfd = (w.req e.rid).dfd) (hm : (w'.req e.rid).msgId = (w.req e.rid).msgId)
    (hqs : (w'.req e.rid).qos = (w.req e.rid).qos)
    (h : ((w.req e.rid).msgId = 0 → (w.req e.rid).dfd = none) ∧ QosOk w e) :
    ((w'.req e.rid).msgId = 0 → (w'.req e.rid).dfd = none) ∧ QosOk w' e := by
  simp only [QosOk, hd, hm, hqs]; exact h

theorem keeps_removed {w w' : World} (hr : ∀ r, (w'.req r).dfd = (w.req r).dfd) (hc : w'.connReqs = w.connReqs) (hn : w'.nextDfd = w.nextDfd)
    (hf : ∀ d ∈ w.fired, d ∈ w'.fired)
    (hrem : ∀ y ∈ w.ents, y ∈ w'.ents ∨ ∀ d, (w.req y.rid).dfd = some d → d ∈ w'.fired) : Keeps w w' := by
  refine ⟨fun d h => ?_, hf, by rw [hn]; exact Nat.le_refl _, fun d h1 h2 => absurd h2 (by omega)⟩
  rcases h with ⟨e, he', hd⟩ | ⟨cr, c, h1, h2⟩
  · rcases hrem e he' with h1 | h1
    · exact Or.inr (Or.inl ⟨e, h1, by rw [hr]; exact hd⟩)
    · exact Or.inl (h1 d hd)
  · exact Or.inr (Or.inr ⟨cr, c, hc ▸ h1, h2⟩)

theorem q0_removed {w w' : World} (hr : ∀ r, (w'.req r).dfd = (w.req r).dfd ∧ (w'.req r).msgId = (w.req r).msgId ∧ (w'.req r).qos = (w.req r).qos)
    (hsub : ∀ y ∈ w'.ents, y ∈ w.ents) (h : Q0 w) : Q0 w' := by
  intro e he'
  exact q0_entry (hr e.rid).1 (hr e.rid).2.1 (hr e.rid).2.2 (h e (hsub e he'))

theorem keeps_fire {w w' : World} (he : w'.ents = w.ents) (hr : ∀ r, (w'.req r).dfd = (w.req r).dfd)
    (hc : w'.connReqs = w.connReqs) (hn : w'.nextDfd = w.nextDfd) (hf : ∀ d ∈ w.fired, d ∈ w'.fired) : Keeps w w' :=
  keeps_removed hr hc hn hf fun _ hy => Or.inl (he ▸ hy)

theorem q0_core {w w' : World} (he : w'.ents = w.ents)
    (hr : ∀ r, (w'.req r).dfd = (w.req r).dfd ∧ (w'.req r).msgId = (w.req r).msgId ∧ (w'.req r).qos = (w.req r).qos)
    (h : Q0 w) : Q0 w' :=
  q0_removed hr (fun _ hy => he ▸ hy) h

theorem keeps_settle {x : Option Nat} {w : World} (h : WInvX x w) {e : Ent} (he : e ∈ w.ents) (hq : e.box ≠ .queue) (t d : Nat)
    (hd : (w.req e.rid).dfd = some d) (o : Obs) : KQ w (fireD (dropArmed w e t) d o) := by
  have hmem := dropArmed_mem h he hq t
  refine fun hq0 => ⟨keeps_removed (fun _ => rfl) rfl rfl (fun d' hd' => List.mem_cons_of_mem _ hd') (fun y hy => ?_),
    q0_removed (w := w) (fun _ => ⟨rfl, rfl, rfl⟩) (fun y hy => ((hmem y).mp hy).1) hq0⟩
  by_cases hye : y = e
  · subst hye
    refine Or.inr fun d' hd' => ?_
    rw [hd] at hd'
    injection hd' with hd'
    subst hd'
    exact List.mem_cons_self
  · exact Or.inl ((hmem y).mpr ⟨hy, hye⟩)

structure CoreSame (w w' : World) : Prop where
  ents : w'.ents = w.ents
  fired : w'.fired = w.fired
  connReqs : w'.connReqs = w.connReqs
  nextDfd : w'.nextDfd = w.nextDfd
  req : ∀ r, (w'.req r).dfd = (w.req r).dfd ∧ (w'.req r).msgId = (w.req r).msgId ∧ (w'.req r).qos = (w.req r).qos

theorem CoreSame.refl (w : World) : CoreSame w w := ⟨rfl, rfl, rfl, rfl, fun _ => ⟨rfl, rfl, rfl⟩⟩
theorem CoreSame.trans {a b c : World} (h1 : CoreSame a b) (h2 : CoreSame b c) : CoreSame a c :=
  ⟨by rw [h2.ents, h1.ents], by rw [h2.fired, h1.fired], by rw [h2.connReqs, h1.connReqs], by rw [h2.nextDfd, h1.nextDfd],
   fun r => ⟨by rw [(h2.req r).1, (h1.req r).1], by rw [(h2.req r).2.1, (h1.req r).2.1], by rw [(h2.req r).2.2, (h1.req r).2.2]⟩⟩
theorem CoreSame.keeps {w w' : World} (h : CoreSame w w') : Keeps w w' :=
  keeps_fire h.ents (fun r => (h.req r).1) h.connReqs h.nextDfd fun _ hd => h.fired ▸ hd
theorem CoreSame.q0 {w w' : World} (h : CoreSame w w') (hq : Q0 w) : Q0 w' := q0_core h.ents h.req hq

theorem emit_same (w : World) (o : Obs) : CoreSame w (w.emit o) := ⟨rfl, rfl, rfl, rfl, fun _ => ⟨rfl, rfl, rfl⟩⟩

theorem Sent.coreSame {p rid : Nat} {w w' : World} (h : Sent p rid w w') : CoreSame w w' := by
  refine ⟨h.ents, h.fired, h.connReqs, h.nextDfd, fun r => ?_⟩
  by_cases hr : rid = r
  · subst hr
    exact ⟨h.kept.2.2.2.1, h.kept.2.1, h.kept.2.2.1⟩
  · rw [h.req_of_ne hr]
    exact ⟨rfl, rfl, rfl⟩

theorem syncW_same (p : Nat) (w : World) : CoreSame w (syncW p w) :=
  syncW_rel CoreSame.refl CoreSame.trans p (fun w rid => (retryReleaseW_sent p rid true w).coreSame)
    (fun w rid => (retryPublishW_sent p rid true w).coreSame) w

theorem launch_keeps {x : Option Nat} {w : World} (h : WInvX x w) (p : Nat) (dup : Bool) (a : Nat) {e : Ent} {rest : List Ent}
    (hitems : Ents.items w.ents a .queue = e :: rest) :
    KQ w (retryPublishW p e.rid dup
      (if (w.req e.rid).msgId ≠ 0 then
        (w.setEnts fun es => Ents.dropFirst es a .queue).setEnts fun es => Ents.insert es a .pub (w.req e.rid).msgId e.rid
       else w.setEnts fun es => Ents.dropFirst es a .queue)) := by
  intro hq0
  have hein : e ∈ Ents.items w.ents a .queue := by rw [hitems]; simp
  obtain ⟨he, -, heb⟩ := Ents.mem_items.mp hein
  obtain ⟨hd1, -, -⟩ := Ents.dropFirst_spec hitems h.nodup
  generalize hw1 : (if (w.req e.rid).msgId ≠ 0 then
        (w.setEnts fun es => Ents.dropFirst es a .queue).setEnts fun es => Ents.insert es a .pub (w.req e.rid).msgId e.rid
       else w.setEnts fun es => Ents.dropFirst es a .queue) = w1
  have hreq1 : ∀ r, w1.req r = w.req r := by intro r; rw [← hw1]; split <;> rfl
  have hf1 : w1.fired = w.fired := by rw [← hw1]; split <;> rfl
  have hc1 : w1.connReqs = w.connReqs := by rw [← hw1]; split <;> rfl
  have hn1 : w1.nextDfd = w.nextDfd := by rw [← hw1]; split <;> rfl
  have hsurv : ∀ y ∈ w.ents, y ≠ e → y ∈ w1.ents := by
    intro y hy hne
    have hy1 : y ∈ Ents.dropFirst w.ents a .queue := (hd1 y).mpr ⟨hy, hne⟩
    rw [← hw1]
    split
    · rename_i hm0
      show y ∈ Ents.insert (Ents.dropFirst w.ents a .queue) a .pub (w.req e.rid).msgId e.rid
      -- the identifier is not a key of the publish window yet, so `insert` appends
      have hlook : Ents.lookup (Ents.dropFirst w.ents a .queue) a .pub (w.req e.rid).msgId = none := by
        cases hl : Ents.lookup (Ents.dropFirst w.ents a .queue) a .pub (w.req e.rid).msgId with
        | none => rfl
        | some rid =>
          have hm := Ents.lookup_some hl
          obtain ⟨hy', hne'⟩ := (hd1 _).mp hm
          have := h.idUnique _ hy' e he (by simp [idOf, heb]) (by simp [idOf]; exact hm0)
          exact absurd this hne'
      rw [Ents.insert_of_lookup_none _ hlook]
      exact List.mem_append_left _ hy1
    · exact hy1
  have hk1 : Keeps w w1 := by
    refine ⟨fun d hd => Or.inr ?_, fun d hd => hf1 ▸ hd, by rw [hn1]; exact Nat.le_refl _, fun d h1 h2 => absurd h2 (by omega)⟩
    rcases hd with ⟨y, hy, hyd⟩ | ⟨cr, c, c1, c2⟩
    · by_cases hye : y = e
      · subst hye
        by_cases hm0 : (w.req y.rid).msgId = 0
        · rw [(hq0 y hy).1 hm0] at hyd; cases hyd
        · refine Or.inl ⟨⟨a, .pub, (w.req y.rid).msgId, y.rid⟩, ?_, by rw [hreq1]; exact hyd⟩
          rw [← hw1]; simp only [ne_eq, hm0, not_false_eq_true, ↓reduceIte]
          exact Ents.mem_insert_self _ _ _ _ _
      · exact Or.inl ⟨y, hsurv y hy hye, by rw [hreq1]; exact hyd⟩
    · exact Or.inr ⟨cr, c, hc1 ▸ c1, c2⟩
  have hq1 : Q0 w1 := by
    intro y hy
    have hold : ∀ y' ∈ w.ents, ((w1.req y'.rid).msgId = 0 → (w1.req y'.rid).dfd = none) ∧ QosOk w1 y' := fun y' hy' =>
      q0_entry (by rw [hreq1]) (by rw [hreq1]) (by rw [hreq1]) (hq0 y' hy')
    rw [← hw1] at hy
    split at hy
    · rename_i hm0
      rcases Ents.mem_insert hy with hy | hy
      · exact hold y (Ents.mem_dropFirst hy)
      · subst hy
        -- the request moves from the queue to the publish window: it has an identifier, so its QoS is 1 or 2
        obtain ⟨q1, _, _, q4⟩ := hq0 e he
        obtain ⟨q5, q6⟩ := q4 heb
        refine ⟨by simp only [hreq1]; exact q1, by simp, ?_, by simp⟩
        intro _
        simp only [hreq1]
        have : (w.req e.rid).qos ≠ 0 := fun hc => hm0 (q5.mpr hc)
        omega
    · exact hold y (Ents.mem_dropFirst hy)
  have hsame := (retryPublishW_sent p e.rid dup w1).coreSame
  exact ⟨hk1.trans hsame.keeps, hsame.q0 hq1⟩

theorem refillW_keeps {x : Option Nat} (p : Nat) (dup : Bool) (ppr : Proto) (hlive : ppr.lost = false) (fuel : Nat) :
    ∀ {w : World}, WInvX x w → w.protos.get? p = some ppr → KQ w (refillW p dup fuel w) := by
  induction fuel with
  | zero => intro w _ _; exact KQ.refl w
  | succ f ih =>
    intro w h hpp
    have hpa : w.paddr p = ppr.addr := by simp [World.paddr, getD_of_get? hpp]
    simp only [refillW, hpa]
    cases hit : Ents.items w.ents ppr.addr .queue with
    | nil => exact KQ.refl w
    | cons e rest =>
      simp only
      split
      · refine (launch_keeps h p dup ppr.addr hit).trans (ih (launch_inv h p dup ppr hpp hlive hit) ?_)
        rw [retryPublishW_protos]
        split <;> exact hpp
      · exact KQ.refl w

theorem CoreSame.kq {w w' : World} (h : CoreSame w w') : KQ w w' := fun hq => ⟨h.keeps, h.q0 hq⟩

def CS (s : Step) : Prop := ∀ w, CoreSame w (s w).1

theorem cs_closed : Step.Closed CS := Step.Rel.closed CoreSame.refl CoreSame.trans

theorem cs_mod {f : World → World} (hf : ∀ w, CoreSame w (f w)) : CS (Step.mod f) := hf
theorem cs_setProto (p : Nat) (f : Proto → Proto) : CS (setProto p f) := cs_mod fun _ => ⟨rfl, rfl, rfl, rfl, fun _ => ⟨rfl, rfl, rfl⟩⟩
theorem cs_emit (o : Obs) : CS (emit o) := cs_mod fun w => emit_same w o
theorem cs_callLater (d : Rat) (k : TKind) {c : Nat → Step} (hc : ∀ t, CS (c t)) : CS (callLater d k c) :=
  cs_closed.callLater d k (cs_mod fun _ => ⟨rfl, rfl, rfl, rfl, fun _ => ⟨rfl, rfl, rfl⟩⟩) hc
theorem cs_cancelTimer (t : Nat) : CS (cancelTimer t) :=
  cs_closed.cancelTimer t fun _ => cs_mod fun _ => ⟨rfl, rfl, rfl, rfl, fun _ => ⟨rfl, rfl, rfl⟩⟩
theorem cs_cancelAlarm (a : Option Nat) : CS (cancelAlarm a) := cs_closed.cancelAlarm a cs_cancelTimer
theorem cs_forEach {α : Type} (l : List α) {f : α → Step} (hf : ∀ a, CS (f a)) : CS (forEach l f) := cs_closed.forEach l hf

theorem kq_closed : Step.Closed (Step.Rel KQ) := Step.Rel.closed KQ.refl KQ.trans

theorem CS.kq {s : Step} (h : CS s) : Step.Rel KQ s := fun w => (h w).kq

end Mqtt
