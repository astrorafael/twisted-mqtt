import MqttVerif.Proofs.Session
/- Changes the invariant does not look at (`SameCore`): observations, the inbound store, the inert fields of a protocol object;
   hence inbound PUBLISH and PUBREL keep it. -/
namespace Mqtt

theorem sameCore_fields (w w' : World) (hents : w'.ents = w.ents) (hreqs : w'.reqs = w.reqs) (htimers : w'.timers = w.timers)
    (hfired : w'.fired = w.fired) (hcr : w'.connReqs = w.connReqs) (hprotos : w'.protos = w.protos) (hid : w'.nextId = w.nextId)
    (hidle : w.nextId ≤ 65535) (h1 : w'.nextReq = w.nextReq) (h2 : w'.nextTimer = w.nextTimer)
    (h3 : w'.nextDfd = w.nextDfd) (h4 : w'.nextCR = w.nextCR) (h5 : w'.nextProto = w.nextProto) (h6 : w'.profile = w.profile) : SameCore w w' :=
  sameCore_of w w' hents (fun r => by simp [World.req, hreqs]) htimers hfired hcr hprotos hid hidle
    h1 h2 h3 h4 h5 h6

theorem emit_inv {x : Option Nat} {w : World} (h : WInvX x w) (o : Obs) : WInvX x (w.emit o) :=
  h.sameCore (sameCore_fields w _ rfl rfl rfl rfl rfl rfl rfl h.idCounter rfl rfl rfl rfl rfl rfl)

theorem rx_inv {x : Option Nat} {w : World} (h : WInvX x w) (rx' : List RxEnt) : WInvX x { w with rx := rx' } :=
  h.sameCore (sameCore_fields w _ rfl rfl rfl rfl rfl rfl rfl h.idCounter rfl rfl rfl rfl rfl rfl)

theorem setProto_sameCore {w : World} (p : Nat) (f : Proto → Proto) (ppr : Proto) (hpp : w.protos.get? p = some ppr)
    (hid : w.nextId ≤ 65535)
    (hf : (f ppr).addr = ppr.addr ∧ (f ppr).state = ppr.state ∧ (f ppr).lost = ppr.lost ∧ (f ppr).pingTimer = ppr.pingTimer ∧
      (f ppr).pingAlarm = ppr.pingAlarm ∧ (f ppr).pingKeepalive = ppr.pingKeepalive ∧ (f ppr).connReq = ppr.connReq ∧
      (Bytes.WF ppr.buffer → Bytes.WF (f ppr).buffer)) :
    SameCore w { w with protos := w.protos.set p (f (w.proto p)) } := by
  have hsame := sameCore_fields w w rfl rfl rfl rfl rfl rfl rfl hid rfl rfl rfl rfl rfl rfl
  refine { hsame with protos := ?_ }
  intro q
  rw [getD_of_get? hpp]
  simp only [Dict.get?_set]
  by_cases hq : p = q
  · subst hq
    simp only [↓reduceIte]
    exact ⟨fun pr' h' => by injection h' with h'; subst h'; exact ⟨ppr, hpp, hf⟩, fun pr _ => ⟨_, rfl⟩⟩
  · simp only [hq, ↓reduceIte]
    exact ⟨fun pr' h' => ⟨pr', h', rfl, rfl, rfl, rfl, rfl, rfl, rfl, id⟩, fun pr h' => ⟨pr, h'⟩⟩

theorem write_apply (p : Nat) (bs : Bytes) (w : World) : write p bs w = (w.emit (.write p bs), none) := rfl

theorem deliver_inv {x : Option Nat} {w : World} (h : WInvX x w) (p : Nat) (m : RxMsg) : Step.Returns (deliver p m) w (WInvX x) := by
  simp only [deliver, Step.returns_read]
  split
  · exact .of_eq rfl (emit_inv h _)
  · exact .of_eq rfl h

/-- `hm`: the identifier was read from two bytes -/
theorem handlePUBLISH_inv {x : Option Nat} {w : World} (h : WInvX x w) (p : Nat) (m : RxMsg) (hm : m.msgId.getD 0 < 65536) :
    Step.Returns (handlePUBLISH p m) w (WInvX x) := by
  obtain ⟨b1, hb1'⟩ : ∃ bs, encodePUBACK ((m.msgId.getD 0 : Nat) : Int) = .ok bs := ⟨_, encodeAck_eq 0x40 _ hm⟩
  obtain ⟨b2, hb2'⟩ : ∃ bs, encodePUBREC ((m.msgId.getD 0 : Nat) : Int) = .ok bs := ⟨_, encodeAck_eq 0x50 _ hm⟩
  unfold handlePUBLISH
  generalize hE1 : encodePUBACK ((m.msgId.getD 0 : Nat) : Int) = E1
  generalize hE2 : encodePUBREC ((m.msgId.getD 0 : Nat) : Int) = E2
  rw [hb1'] at hE1; rw [hb2'] at hE2; subst hE1; subst hE2
  split
  · exact deliver_inv h p m
  · split
    · exact .seq_eq (write_apply p b1 w) (deliver_inv (emit_inv h _) p m)
    · split
      · exact .seq_eq rfl (.of_eq rfl (emit_inv (rx_inv h _) _))
      · exact .of_eq rfl h

theorem handlePUBREL_inv {x : Option Nat} {w : World} (h : WInvX x w) (p : Nat) (m : Nat) (hm : m < 65536) :
    Step.Returns (handlePUBREL p m) w (WInvX x) := by
  obtain ⟨b1, hb1'⟩ : ∃ bs, encodePUBCOMP (m : Int) = .ok bs := ⟨_, encodeAck_eq 0x70 m hm⟩
  unfold handlePUBREL
  generalize hE1 : encodePUBCOMP (m : Int) = E1
  rw [hb1'] at hE1; subst hE1
  rw [Step.returns_read]
  cases hl : Rx.lookup w.rx (w.paddr p) m with
  | none => exact .seq_eq rfl (.of_eq rfl (emit_inv h _))
  | some msg => exact .seq (.seq_eq rfl (deliver_inv (rx_inv h _) p msg)) fun w1 h1 => .of_eq rfl (emit_inv h1 _)

end Mqtt
