import MqttVerif.Proofs.Lib
/-
  The fields and accessors of a world after each of the pure primitives `setReq`, `setEnts`, `emit`, `callLater`: one
  `@[simp]` equation per primitive and field, all by `rfl` but `req_setReq`, which splits on the key.
-/
namespace Mqtt

@[simp] theorem setReq_profile (w : World) (r : Nat) (g : Req → Req) : (w.setReq r g).profile = w.profile := rfl
@[simp] theorem setEnts_profile (w : World) (g : List Ent → List Ent) : (w.setEnts g).profile = w.profile := rfl
@[simp] theorem emit_profile (w : World) (o : Obs) : (w.emit o).profile = w.profile := rfl
@[simp] theorem callLater_profile (w : World) (d : Rat) (k : TKind) : (w.callLater d k).1.profile = w.profile := rfl
@[simp] theorem setReq_nextId (w : World) (r : Nat) (g : Req → Req) : (w.setReq r g).nextId = w.nextId := rfl
@[simp] theorem setEnts_nextId (w : World) (g : List Ent → List Ent) : (w.setEnts g).nextId = w.nextId := rfl
@[simp] theorem emit_nextId (w : World) (o : Obs) : (w.emit o).nextId = w.nextId := rfl
@[simp] theorem callLater_nextId (w : World) (d : Rat) (k : TKind) : (w.callLater d k).1.nextId = w.nextId := rfl
@[simp] theorem setReq_ents (w : World) (r : Nat) (g : Req → Req) : (w.setReq r g).ents = w.ents := rfl
@[simp] theorem emit_ents (w : World) (o : Obs) : (w.emit o).ents = w.ents := rfl
@[simp] theorem callLater_ents (w : World) (d : Rat) (k : TKind) : (w.callLater d k).1.ents = w.ents := rfl
@[simp] theorem setReq_rx (w : World) (r : Nat) (g : Req → Req) : (w.setReq r g).rx = w.rx := rfl
@[simp] theorem setEnts_rx (w : World) (g : List Ent → List Ent) : (w.setEnts g).rx = w.rx := rfl
@[simp] theorem emit_rx (w : World) (o : Obs) : (w.emit o).rx = w.rx := rfl
@[simp] theorem callLater_rx (w : World) (d : Rat) (k : TKind) : (w.callLater d k).1.rx = w.rx := rfl
@[simp] theorem setReq_protos (w : World) (r : Nat) (g : Req → Req) : (w.setReq r g).protos = w.protos := rfl
@[simp] theorem setEnts_protos (w : World) (g : List Ent → List Ent) : (w.setEnts g).protos = w.protos := rfl
@[simp] theorem emit_protos (w : World) (o : Obs) : (w.emit o).protos = w.protos := rfl
@[simp] theorem callLater_protos (w : World) (d : Rat) (k : TKind) : (w.callLater d k).1.protos = w.protos := rfl
@[simp] theorem setReq_nextProto (w : World) (r : Nat) (g : Req → Req) : (w.setReq r g).nextProto = w.nextProto := rfl
@[simp] theorem setEnts_nextProto (w : World) (g : List Ent → List Ent) : (w.setEnts g).nextProto = w.nextProto := rfl
@[simp] theorem emit_nextProto (w : World) (o : Obs) : (w.emit o).nextProto = w.nextProto := rfl
@[simp] theorem callLater_nextProto (w : World) (d : Rat) (k : TKind) : (w.callLater d k).1.nextProto = w.nextProto := rfl
@[simp] theorem setEnts_reqs (w : World) (g : List Ent → List Ent) : (w.setEnts g).reqs = w.reqs := rfl
@[simp] theorem emit_reqs (w : World) (o : Obs) : (w.emit o).reqs = w.reqs := rfl
@[simp] theorem callLater_reqs (w : World) (d : Rat) (k : TKind) : (w.callLater d k).1.reqs = w.reqs := rfl
@[simp] theorem setReq_nextReq (w : World) (r : Nat) (g : Req → Req) : (w.setReq r g).nextReq = w.nextReq := rfl
@[simp] theorem setEnts_nextReq (w : World) (g : List Ent → List Ent) : (w.setEnts g).nextReq = w.nextReq := rfl
@[simp] theorem emit_nextReq (w : World) (o : Obs) : (w.emit o).nextReq = w.nextReq := rfl
@[simp] theorem callLater_nextReq (w : World) (d : Rat) (k : TKind) : (w.callLater d k).1.nextReq = w.nextReq := rfl
@[simp] theorem setReq_connReqs (w : World) (r : Nat) (g : Req → Req) : (w.setReq r g).connReqs = w.connReqs := rfl
@[simp] theorem setEnts_connReqs (w : World) (g : List Ent → List Ent) : (w.setEnts g).connReqs = w.connReqs := rfl
@[simp] theorem emit_connReqs (w : World) (o : Obs) : (w.emit o).connReqs = w.connReqs := rfl
@[simp] theorem callLater_connReqs (w : World) (d : Rat) (k : TKind) : (w.callLater d k).1.connReqs = w.connReqs := rfl
@[simp] theorem setReq_nextCR (w : World) (r : Nat) (g : Req → Req) : (w.setReq r g).nextCR = w.nextCR := rfl
@[simp] theorem setEnts_nextCR (w : World) (g : List Ent → List Ent) : (w.setEnts g).nextCR = w.nextCR := rfl
@[simp] theorem emit_nextCR (w : World) (o : Obs) : (w.emit o).nextCR = w.nextCR := rfl
@[simp] theorem callLater_nextCR (w : World) (d : Rat) (k : TKind) : (w.callLater d k).1.nextCR = w.nextCR := rfl
@[simp] theorem setReq_timers (w : World) (r : Nat) (g : Req → Req) : (w.setReq r g).timers = w.timers := rfl
@[simp] theorem setEnts_timers (w : World) (g : List Ent → List Ent) : (w.setEnts g).timers = w.timers := rfl
@[simp] theorem emit_timers (w : World) (o : Obs) : (w.emit o).timers = w.timers := rfl
@[simp] theorem setReq_nextTimer (w : World) (r : Nat) (g : Req → Req) : (w.setReq r g).nextTimer = w.nextTimer := rfl
@[simp] theorem setEnts_nextTimer (w : World) (g : List Ent → List Ent) : (w.setEnts g).nextTimer = w.nextTimer := rfl
@[simp] theorem emit_nextTimer (w : World) (o : Obs) : (w.emit o).nextTimer = w.nextTimer := rfl
@[simp] theorem setReq_nextDfd (w : World) (r : Nat) (g : Req → Req) : (w.setReq r g).nextDfd = w.nextDfd := rfl
@[simp] theorem setEnts_nextDfd (w : World) (g : List Ent → List Ent) : (w.setEnts g).nextDfd = w.nextDfd := rfl
@[simp] theorem emit_nextDfd (w : World) (o : Obs) : (w.emit o).nextDfd = w.nextDfd := rfl
@[simp] theorem callLater_nextDfd (w : World) (d : Rat) (k : TKind) : (w.callLater d k).1.nextDfd = w.nextDfd := rfl
@[simp] theorem setReq_fired (w : World) (r : Nat) (g : Req → Req) : (w.setReq r g).fired = w.fired := rfl
@[simp] theorem setEnts_fired (w : World) (g : List Ent → List Ent) : (w.setEnts g).fired = w.fired := rfl
@[simp] theorem emit_fired (w : World) (o : Obs) : (w.emit o).fired = w.fired := rfl
@[simp] theorem callLater_fired (w : World) (d : Rat) (k : TKind) : (w.callLater d k).1.fired = w.fired := rfl
@[simp] theorem setReq_now (w : World) (r : Nat) (g : Req → Req) : (w.setReq r g).now = w.now := rfl
@[simp] theorem setEnts_now (w : World) (g : List Ent → List Ent) : (w.setEnts g).now = w.now := rfl
@[simp] theorem emit_now (w : World) (o : Obs) : (w.emit o).now = w.now := rfl
@[simp] theorem callLater_now (w : World) (d : Rat) (k : TKind) : (w.callLater d k).1.now = w.now := rfl
@[simp] theorem setReq_jitter (w : World) (r : Nat) (g : Req → Req) : (w.setReq r g).jitter = w.jitter := rfl
@[simp] theorem setEnts_jitter (w : World) (g : List Ent → List Ent) : (w.setEnts g).jitter = w.jitter := rfl
@[simp] theorem emit_jitter (w : World) (o : Obs) : (w.emit o).jitter = w.jitter := rfl
@[simp] theorem callLater_jitter (w : World) (d : Rat) (k : TKind) : (w.callLater d k).1.jitter = w.jitter := rfl
@[simp] theorem setReq_log (w : World) (r : Nat) (g : Req → Req) : (w.setReq r g).log = w.log := rfl
@[simp] theorem setEnts_log (w : World) (g : List Ent → List Ent) : (w.setEnts g).log = w.log := rfl
@[simp] theorem callLater_log (w : World) (d : Rat) (k : TKind) : (w.callLater d k).1.log = w.log := rfl
@[simp] theorem setReq_nextSeq (w : World) (r : Nat) (g : Req → Req) : (w.setReq r g).nextSeq = w.nextSeq := rfl
@[simp] theorem setEnts_nextSeq (w : World) (g : List Ent → List Ent) : (w.setEnts g).nextSeq = w.nextSeq := rfl
@[simp] theorem emit_nextSeq (w : World) (o : Obs) : (w.emit o).nextSeq = w.nextSeq := rfl
@[simp] theorem callLater_nextSeq (w : World) (d : Rat) (k : TKind) : (w.callLater d k).1.nextSeq = w.nextSeq := rfl
@[simp] theorem setReq_idAllocs (w : World) (r : Nat) (g : Req → Req) : (w.setReq r g).idAllocs = w.idAllocs := rfl
@[simp] theorem setEnts_idAllocs (w : World) (g : List Ent → List Ent) : (w.setEnts g).idAllocs = w.idAllocs := rfl
@[simp] theorem emit_idAllocs (w : World) (o : Obs) : (w.emit o).idAllocs = w.idAllocs := rfl
@[simp] theorem callLater_idAllocs (w : World) (d : Rat) (k : TKind) : (w.callLater d k).1.idAllocs = w.idAllocs := rfl
@[simp] theorem setEnts_ents (w : World) (g : List Ent → List Ent) : (w.setEnts g).ents = g w.ents := rfl
@[simp] theorem emit_log (w : World) (o : Obs) : (w.emit o).log = w.log ++ [o] := rfl
@[simp] theorem callLater_timers (w : World) (d : Rat) (k : TKind) : (w.callLater d k).1.timers = w.timers.set w.nextTimer ⟨w.now + ticks d, k, .pending⟩ := rfl
@[simp] theorem callLater_nextTimer (w : World) (d : Rat) (k : TKind) : (w.callLater d k).1.nextTimer = w.nextTimer + 1 := rfl
@[simp] theorem callLater_id (w : World) (d : Rat) (k : TKind) : (w.callLater d k).2 = w.nextTimer := rfl
@[simp] theorem setReq_reqs (w : World) (r : Nat) (g : Req → Req) : (w.setReq r g).reqs = w.reqs.set r (g (w.req r)) := rfl
@[simp] theorem setReq_proto (w : World) (r : Nat) (g : Req → Req) (p : Nat) : (w.setReq r g).proto p = w.proto p := rfl
@[simp] theorem setReq_paddr (w : World) (r : Nat) (g : Req → Req) (p : Nat) : (w.setReq r g).paddr p = w.paddr p := rfl
@[simp] theorem setEnts_proto (w : World) (g : List Ent → List Ent) (p : Nat) : (w.setEnts g).proto p = w.proto p := rfl
@[simp] theorem setEnts_paddr (w : World) (g : List Ent → List Ent) (p : Nat) : (w.setEnts g).paddr p = w.paddr p := rfl
@[simp] theorem setEnts_req (w : World) (g : List Ent → List Ent) (r0 : Nat) : (w.setEnts g).req r0 = w.req r0 := rfl
@[simp] theorem emit_proto (w : World) (o : Obs) (p : Nat) : (w.emit o).proto p = w.proto p := rfl
@[simp] theorem emit_paddr (w : World) (o : Obs) (p : Nat) : (w.emit o).paddr p = w.paddr p := rfl
@[simp] theorem emit_req (w : World) (o : Obs) (r0 : Nat) : (w.emit o).req r0 = w.req r0 := rfl
@[simp] theorem callLater_proto (w : World) (d : Rat) (k : TKind) (p : Nat) : ((w.callLater d k).1).proto p = w.proto p := rfl
@[simp] theorem callLater_paddr (w : World) (d : Rat) (k : TKind) (p : Nat) : ((w.callLater d k).1).paddr p = w.paddr p := rfl
@[simp] theorem callLater_req (w : World) (d : Rat) (k : TKind) (r0 : Nat) : ((w.callLater d k).1).req r0 = w.req r0 := rfl

@[simp] theorem req_setReq (w : World) (r : Nat) (f : Req → Req) (r' : Nat) :
    (w.setReq r f).req r' = if r = r' then f (w.req r) else w.req r' := by
  simp only [World.setReq, World.req, Dict.get?_set]; split <;> simp

end Mqtt
