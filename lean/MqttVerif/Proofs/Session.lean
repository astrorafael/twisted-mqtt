import MqttVerif.Proofs.Trans
import MqttVerif.Proofs.Simp
import MqttVerif.Proofs.Pdu
/-
  The session layer: the refill loop preserves the invariant; what each acknowledgement handler does
  to the world, as an equation, and from it that the handler raises nothing and preserves the invariant.
-/
namespace Mqtt

/-! ### `_refillPublish`: held-back messages move into the publish window -/

/-- one iteration of the refill loop -/
theorem launch_inv {x : Option Nat} {w : World} (h : WInvX x w) (p : Nat) (dup : Bool) (ppr : Proto)
    (hpp : w.protos.get? p = some ppr) (hlive : ppr.lost = false) {e : Ent} {rest : List Ent} (hitems : Ents.items w.ents ppr.addr .queue = e :: rest) :
    WInvX x (retryPublishW p e.rid dup
      (if (w.req e.rid).msgId ≠ 0 then
        (w.setEnts fun es => Ents.dropFirst es ppr.addr .queue).setEnts fun es => Ents.insert es ppr.addr .pub (w.req e.rid).msgId e.rid
       else w.setEnts fun es => Ents.dropFirst es ppr.addr .queue)) := by
  have hein : e ∈ Ents.items w.ents ppr.addr .queue := by rw [hitems]; simp
  obtain ⟨he, hea, heb⟩ := Ents.mem_items.mp hein
  obtain ⟨hd1, hd2, hd3⟩ := Ents.dropFirst_spec hitems h.nodup
  have hal := h.queueNoAlarm e he heb
  have h1 : WInvX x (w.setEnts fun es => Ents.dropFirst es ppr.addr .queue) := dropQuiet_inv h hal _ hd3 hd1
  by_cases hm0 : (w.req e.rid).msgId = 0
  · -- QoS 0: written, nothing else
    simp only [hm0, ne_eq, not_true_eq_false, ↓reduceIte]
    have hm0' : ((w.setEnts fun es => Ents.dropFirst es ppr.addr .queue).req e.rid).msgId = 0 := hm0
    have s := retryPublishW_sent p e.rid dup (w.setEnts fun es => Ents.dropFirst es ppr.addr .queue)
    rcases s.timer with ⟨ht, hn, ha, _⟩ | ⟨_, _, _, hn, _⟩
    · exact h1.sameCore (s.sameCore ht hn ha h.idCounter)
    · simp only [retryPublishW, req_setReq, hm0', ne_eq, not_true_eq_false, ↓reduceIte, emit_nextTimer, setReq_nextTimer] at hn
      omega
  · simp only [ne_eq, hm0, not_false_eq_true, ↓reduceIte]
    let w1 := w.setEnts fun es => Ents.dropFirst es ppr.addr .queue
    have hw1mem : ∀ y, y ∈ w1.ents ↔ y ∈ w.ents ∧ y ≠ e := hd1
    have hidf : ∀ y ∈ w1.ents, idOf w1 y ≠ (w.req e.rid).msgId := by
      intro y hy hc
      obtain ⟨hy1, hy2⟩ := (hw1mem y).mp hy
      have hc' : idOf w y = (w.req e.rid).msgId := hc
      exact hy2 (h.idUnique y hy1 e he (by rw [hc']; simp [idOf, heb]) (by rw [hc']; exact hm0))
    have hins : Ents.insert w1.ents ppr.addr .pub (w.req e.rid).msgId e.rid = w1.ents ++ [⟨ppr.addr, .pub, (w.req e.rid).msgId, e.rid⟩] := by
      apply Ents.insert_of_lookup_none
      cases hl : Ents.lookup w1.ents ppr.addr .pub (w.req e.rid).msgId with
      | none => rfl
      | some rid => exact absurd (by simp [idOf]) (hidf _ (Ents.lookup_some hl))
    obtain ⟨d, hd⟩ : ∃ d, (w.req e.rid).dfd = some d := Option.ne_none_iff_exists'.mp (h.dfdSome e he hm0)
    have hdf := h.dfdFresh e he d hd
    obtain ⟨o1, o2⟩ := h.dfd_owned he hd
    refine enterWindow_inv h1 ⟨ppr.addr, .pub, (w.req e.rid).msgId, e.rid⟩ (retryPublishW_sent p e.rid dup _)
      (congrArg (fun es => ({ w1 with ents := es } : World)) hins) (fun _ _ => rfl)
      (fun y hy hc => ((hw1mem y).mp hy).2 (h.ridUnique y ((hw1mem y).mp hy).1 e he hc))
      (h.ridFresh e he) (Nat.le_refl _) (Nat.le_refl _) (by simp) rfl hm0 hidf hd hdf.1 hdf.2
      (fun y hy => o1 y ((hw1mem y).mp hy).1 ((hw1mem y).mp hy).2) o2 hpp rfl hlive

theorem retryPublishW_protos (p rid : Nat) (dup : Bool) (w : World) : (retryPublishW p rid dup w).protos = w.protos :=
  (retryPublishW_sent p rid dup w).protos

theorem refillW_inv {x : Option Nat} (p : Nat) (dup : Bool) (ppr : Proto) (fuel : Nat) :
    ∀ {w : World}, WInvX x w → w.protos.get? p = some ppr → ppr.lost = false →
      WInvX x (refillW p dup fuel w) ∧ (refillW p dup fuel w).protos = w.protos := by
  intro w h hpp hlive
  refine ⟨?_, refillW_protos p dup fuel w⟩
  induction fuel generalizing w with
  | zero => exact h
  | succ f ih =>
    have hpa : w.paddr p = ppr.addr := paddr_of_get? hpp
    simp only [refillW, hpa]
    cases hit : Ents.items w.ents ppr.addr .queue with
    | nil => exact h
    | cons e rest =>
      simp only
      split
      · refine ih (launch_inv h p dup ppr hpp hlive hit) ?_
        rw [retryPublishW_protos]
        split <;> exact hpp
      · exact h

theorem cancelTimer_at (w : World) (t : Nat) (tm : Timer) (htm : w.timers.get? t = some tm) (hs : tm.status = .pending) :
    cancelTimer t w = ({ w with timers := w.timers.set t { tm with status := .cancelled } }, none) := by
  simp only [cancelTimer, read_apply, htm, hs]
  rfl

theorem cancelTimer_pending (w : World) (t : Nat) (k : TKind) (h : Pending w t k) :
    cancelTimer t w = ({ w with timers := cancelT w t }, none) := by
  obtain ⟨tm, a, b, _⟩ := h
  rw [cancelTimer_at w t tm a b, cancelT, a]
  rfl

theorem fireDfd_unfired (w : World) (d : Nat) (o : Outcome) (h : d ∉ w.fired) :
    fireDfd d o w = (fireD w d (.fired d o), none) := by
  simp [fireDfd, h, Step.seq, emit, fireD, World.emit]

theorem settle_inv {x : Option Nat} {w : World} (h : WInvX x w) {e : Ent} (he : e ∈ w.ents) (hq : e.box ≠ .queue) {t d : Nat}
    (ht : (w.req e.rid).alarm = some t) (hd : (w.req e.rid).dfd = some d) (o : Obs) :
    WInvX x (fireD (dropArmed w e t) d o) := by
  have hmem := dropArmed_mem h he hq t
  obtain ⟨o1, o2⟩ := h.dfd_owned he hd
  exact fireD_inv (dropArmed_inv h he hq ht) (h.dfdFresh e he d hd).1 (fun y hy => o1 y ((hmem y).mp hy).1 ((hmem y).mp hy).2)
    (fun _ cr c _ => o2 cr c) (fun _ _ cr c _ _ => o2 cr c) o

theorem window_entry_facts {w : World} (h : WInv w) (p : Nat) (ppr : Proto) (hpp : w.protos.get? p = some ppr)
    (hlive : ppr.lost = false) (hconn : ppr.state = .connected) {e : Ent} (he : e ∈ w.ents) (hea : e.addr = ppr.addr)
    (hq : e.box ≠ .queue) :
    ∃ t d p0, (w.req e.rid).alarm = some t ∧ Pending w t (.retry p0 e.rid) ∧ (w.req e.rid).dfd = some d ∧ d ∉ w.fired ∧
      (w.req e.rid).msgId = e.key := by
  have hal := h.connected p ppr hpp (by simp) hlive hconn e he hea hq
  obtain ⟨t, ht⟩ := Option.ne_none_iff_exists'.mp hal
  obtain ⟨_, p0, _, hpe, _⟩ := h.alarm e he t ht
  obtain ⟨d, hd⟩ := h.dfd_of_window he hq
  exact ⟨t, d, p0, ht, hpe, hd, (h.dfdFresh e he d hd).2, (h.keyId e he hq).1⟩

/-! ### acknowledgements with an unknown identifier change nothing at all -/

theorem handlePUBACK_unknown (p m : Nat) (w : World) (h : Ents.lookup w.ents (w.paddr p) .pub m = none) :
    handlePUBACK p m w = (w, none) := by simp only [handlePUBACK, read_apply, h]; rfl
theorem handlePUBREC_unknown (p m : Nat) (w : World) (h : Ents.lookup w.ents (w.paddr p) .pub m = none) :
    handlePUBREC p m w = (w, none) := by
  unfold handlePUBREC
  generalize encodePUBREL (m : Int) = E
  simp [Step.read, h, Step.ok]
/-- an acknowledgement whose type does not fit the QoS of the pending message changes nothing either: PUBACK bearing the
    identifier of a QoS 2 message, PUBREC bearing that of a QoS 1 message -/
theorem handlePUBACK_wrong_qos (p m rid : Nat) (w : World) (h : Ents.lookup w.ents (w.paddr p) .pub m = some rid)
    (hq : (w.req rid).qos ≠ 1) : handlePUBACK p m w = (w, none) := by
  simp only [handlePUBACK, read_apply, h, hq, ne_eq, not_false_eq_true, ↓reduceIte]; rfl
theorem handlePUBREC_wrong_qos (p m rid : Nat) (w : World) (h : Ents.lookup w.ents (w.paddr p) .pub m = some rid)
    (hq : (w.req rid).qos ≠ 2) : handlePUBREC p m w = (w, none) := by
  unfold handlePUBREC
  generalize encodePUBREL (m : Int) = E
  simp [Step.read, h, Step.ok, hq]
theorem handlePUBCOMP_unknown (p m : Nat) (w : World) (h : Ents.lookup w.ents (w.paddr p) .rel m = none) :
    handlePUBCOMP p m w = (w, none) := by simp only [handlePUBCOMP, read_apply, h]; rfl
theorem handleSubUnsubAck_unknown (p : Nat) (isSub : Bool) (m : Nat) (v : Val) (w : World)
    (h : Ents.lookup w.ents (w.paddr p) (if isSub then .sub else .unsub) m = none) :
    handleSubUnsubAck p isSub m v w = (w, none) := by simp only [handleSubUnsubAck, read_apply, h]; rfl

/-! ### the effect of the acknowledgement a request is waiting for -/

/-- what both handlers do once the entry is found, for either window -/
theorem ack_effect {w : World} (h : WInv w) (p : Nat) (ppr : Proto) (hpp : w.protos.get? p = some ppr)
    (hlive : ppr.lost = false) (hconn : ppr.state = .connected) (box : Box) (hq : box ≠ .queue) (m rid : Nat)
    (hl : Ents.lookup w.ents ppr.addr box m = some rid) :
    ∃ t d, (w.req rid).alarm = some t ∧ (w.req rid).dfd = some d ∧ d ∉ w.fired ∧ (w.req rid).msgId = m ∧
      (cancelAlarm (w.req rid).alarm ;; fireReqDfd (w.req rid).dfd (.ok (.int (w.req rid).msgId)) ;;
        setEnts (fun es => Ents.remove es ppr.addr box m) ;; refill p) w =
      (refillW p false (Ents.count (Ents.remove w.ents ppr.addr box m) ppr.addr .queue)
        (fireD (dropArmed w ⟨ppr.addr, box, m, rid⟩ t) d (.fired d (.ok (.int m)))), none) := by
  have hpa : w.paddr p = ppr.addr := paddr_of_get? hpp
  obtain ⟨t, d, p0, ht, hpe, hd, hnf, hkey⟩ := window_entry_facts h p ppr hpp hlive hconn (Ents.lookup_some hl) rfl hq
  simp only at ht hpe hd hkey
  refine ⟨t, d, ht, hd, hnf, hkey, ?_⟩
  rw [ht, hd, hkey, ← hpa]
  show (cancelTimer t ;; fireDfd d _ ;; _) w = _
  rw [seq_ok (cancelTimer_pending w t _ hpe), seq_ok (fireDfd_unfired { w with timers := cancelT w t } d _ hnf)]
  rfl

/-- PUBACK for an identifier in the publish window of a connected protocol: the retry timer is cancelled, the
    Deferred of exactly that request succeeds with the identifier (the window key = the request's msgId = the
    number on the wire), the entry leaves the window, and the window is refilled -/
theorem handlePUBACK_effect {w : World} (h : WInv w) (p : Nat) (ppr : Proto) (hpp : w.protos.get? p = some ppr)
    (hlive : ppr.lost = false) (hconn : ppr.state = .connected) (m rid : Nat)
    (hl : Ents.lookup w.ents ppr.addr .pub m = some rid) (hq1 : (w.req rid).qos = 1) :
    ∃ t d, (w.req rid).alarm = some t ∧ (w.req rid).dfd = some d ∧ d ∉ w.fired ∧ (w.req rid).msgId = m ∧
      handlePUBACK p m w = (refillW p false (Ents.count (Ents.remove w.ents ppr.addr .pub m) ppr.addr .queue)
        (fireD (dropArmed w ⟨ppr.addr, .pub, m, rid⟩ t) d (.fired d (.ok (.int m)))), none) := by
  simp only [handlePUBACK, read_apply, paddr_of_get? hpp, hl, ne_eq, hq1, not_true_eq_false, ↓reduceIte]
  exact ack_effect h p ppr hpp hlive hconn .pub (by simp) m rid hl

theorem handlePUBACK_inv {w : World} (h : WInv w) (p : Nat) (ppr : Proto) (hpp : w.protos.get? p = some ppr)
    (hlive : ppr.lost = false) (hconn : ppr.state = .connected) (m : Nat) :
    (handlePUBACK p m w).2 = none ∧ WInv (handlePUBACK p m w).1 := by
  have hpa : w.paddr p = ppr.addr := paddr_of_get? hpp
  cases hl : Ents.lookup w.ents ppr.addr .pub m with
  | none => rw [handlePUBACK_unknown p m w (hpa ▸ hl)]; exact ⟨rfl, h⟩
  | some rid =>
    by_cases hq1 : (w.req rid).qos = 1
    case neg => rw [handlePUBACK_wrong_qos p m rid w (hpa ▸ hl) hq1]; exact ⟨rfl, h⟩
    obtain ⟨t, d, ht, hd, _, _, heq⟩ := handlePUBACK_effect h p ppr hpp hlive hconn m rid hl hq1
    rw [heq]
    exact ⟨rfl, (refillW_inv p false ppr _ (settle_inv h (Ents.lookup_some hl) (by simp) ht hd _) hpp hlive).1⟩

theorem handlePUBCOMP_effect {w : World} (h : WInv w) (p : Nat) (ppr : Proto) (hpp : w.protos.get? p = some ppr)
    (hlive : ppr.lost = false) (hconn : ppr.state = .connected) (m rid : Nat)
    (hl : Ents.lookup w.ents ppr.addr .rel m = some rid) :
    ∃ t d, (w.req rid).alarm = some t ∧ (w.req rid).dfd = some d ∧ d ∉ w.fired ∧ (w.req rid).msgId = m ∧
      handlePUBCOMP p m w = (refillW p false (Ents.count (Ents.remove w.ents ppr.addr .rel m) ppr.addr .queue)
        (fireD (dropArmed w ⟨ppr.addr, .rel, m, rid⟩ t) d (.fired d (.ok (.int m)))), none) := by
  obtain ⟨t, d, ht, hd, hnf, hkey, heq⟩ := ack_effect h p ppr hpp hlive hconn .rel (by simp) m rid hl
  refine ⟨t, d, ht, hd, hnf, hkey, ?_⟩
  simp only [handlePUBCOMP, read_apply, paddr_of_get? hpp, hl]
  rw [hkey] at heq ⊢
  exact heq

theorem handlePUBCOMP_inv {w : World} (h : WInv w) (p : Nat) (ppr : Proto) (hpp : w.protos.get? p = some ppr)
    (hlive : ppr.lost = false) (hconn : ppr.state = .connected) (m : Nat) :
    (handlePUBCOMP p m w).2 = none ∧ WInv (handlePUBCOMP p m w).1 := by
  have hpa : w.paddr p = ppr.addr := paddr_of_get? hpp
  cases hl : Ents.lookup w.ents ppr.addr .rel m with
  | none => rw [handlePUBCOMP_unknown p m w (hpa ▸ hl)]; exact ⟨rfl, h⟩
  | some rid =>
    obtain ⟨t, d, ht, hd, _, _, heq⟩ := handlePUBCOMP_effect h p ppr hpp hlive hconn m rid hl
    rw [heq]
    exact ⟨rfl, (refillW_inv p false ppr _ (settle_inv h (Ents.lookup_some hl) (by simp) ht hd _) hpp hlive).1⟩

theorem handleSubUnsubAck_effect {w : World} (h : WInv w) (p : Nat) (ppr : Proto) (hpp : w.protos.get? p = some ppr)
    (hlive : ppr.lost = false) (hconn : ppr.state = .connected) (isSub : Bool) (m rid : Nat) (v : Val)
    (hl : Ents.lookup w.ents ppr.addr (if isSub then .sub else .unsub) m = some rid) :
    ∃ t d, (w.req rid).alarm = some t ∧ (w.req rid).dfd = some d ∧ d ∉ w.fired ∧ (w.req rid).msgId = m ∧
      handleSubUnsubAck p isSub m v w =
        (fireD (dropArmed w ⟨ppr.addr, if isSub then .sub else .unsub, m, rid⟩ t) d (.fired d (.ok v)), none) := by
  have hpa : w.paddr p = ppr.addr := paddr_of_get? hpp
  generalize hbox : (if isSub = true then Box.sub else Box.unsub) = box at hl ⊢
  have hbq : box ≠ .queue := by cases isSub <;> simp at hbox <;> subst hbox <;> simp
  have he := Ents.lookup_some hl
  obtain ⟨t, d, p0, ht, hpe, hd, hnf, hkey⟩ := window_entry_facts h p ppr hpp hlive hconn he rfl hbq
  simp only at ht hpe hd hkey
  refine ⟨t, d, ht, hd, hnf, hkey, ?_⟩
  simp only [handleSubUnsubAck, read_apply, hpa, hbox, hl]
  have s1 : setEnts (fun es => Ents.remove es ppr.addr box m) w = (w.setEnts fun es => Ents.remove es ppr.addr box m, none) := rfl
  rw [seq_ok s1]
  have hp1 : Pending (w.setEnts fun es => Ents.remove es ppr.addr box m) t (.retry p0 rid) := hpe
  have s2 : cancelAlarm (w.req rid).alarm (w.setEnts fun es => Ents.remove es ppr.addr box m)
      = (dropArmed w ⟨ppr.addr, box, m, rid⟩ t, none) := by
    rw [ht]; exact cancelTimer_pending _ t _ hp1
  rw [seq_ok s2, hd]
  exact fireDfd_unfired _ d _ hnf

theorem handleSubUnsubAck_inv {w : World} (h : WInv w) (p : Nat) (ppr : Proto) (hpp : w.protos.get? p = some ppr)
    (hlive : ppr.lost = false) (hconn : ppr.state = .connected) (isSub : Bool) (m : Nat) (v : Val) :
    (handleSubUnsubAck p isSub m v w).2 = none ∧ WInv (handleSubUnsubAck p isSub m v w).1 := by
  have hpa : w.paddr p = ppr.addr := paddr_of_get? hpp
  cases hl : Ents.lookup w.ents ppr.addr (if isSub then .sub else .unsub) m with
  | none => rw [handleSubUnsubAck_unknown p isSub m v w (hpa ▸ hl)]; exact ⟨rfl, h⟩
  | some rid =>
    obtain ⟨t, d, ht, hd, _, _, heq⟩ := handleSubUnsubAck_effect h p ppr hpp hlive hconn isSub m rid v hl
    rw [heq]
    exact ⟨rfl, settle_inv h (Ents.lookup_some hl) (by cases isSub <;> simp) ht hd _⟩

theorem dropArmed_idFree {x : Option Nat} {w : World} (h : WInvX x w) {e : Ent} (he : e ∈ w.ents) (hq : e.box ≠ .queue) (t : Nat) :
    ∀ y ∈ (dropArmed w e t).ents, idOf (dropArmed w e t) y ≠ e.key := by
  intro y hy hc
  obtain ⟨hy1, hy2⟩ := (dropArmed_mem h he hq t y).mp hy
  have hc' : idOf w y = e.key := hc
  have hk := h.keyId e he hq
  exact hy2 (h.idUnique y hy1 e he (by rw [hc']; simp [idOf, hq]) (by rw [hc']; exact hk.2))

/-! ### PUBREC moves the exchange from the publish window to the release window -/

/-- the world in which the PUBREL is first transmitted: the PUBLISH entry is gone (its retry timer cancelled), a PUBREL
    request under the same identifier, with the same Deferred, sits in the release window -/
def afterPubrec (w : World) (a m rid t : Nat) (bs : Bytes) (initialT : Nat) : World :=
  { dropArmed w ⟨a, .pub, m, rid⟩ t with
    reqs := (dropArmed w ⟨a, .pub, m, rid⟩ t).reqs.set w.nextReq
      { kind := .pubrel, msgId := m, qos := (w.req rid).qos, encoded := bs, dfd := (w.req rid).dfd, alarm := none, initial := initialT, ivValue := initialT, ivK := 1, bandwith := 1, factor := 1, seq := (w.req rid).seq },
    nextReq := w.nextReq + 1,
    ents := (dropArmed w ⟨a, .pub, m, rid⟩ t).ents ++ [⟨a, .rel, m, w.nextReq⟩] }

theorem handlePUBREC_effect {w : World} (h : WInv w) (p : Nat) (ppr : Proto) (hpp : w.protos.get? p = some ppr)
    (hlive : ppr.lost = false) (hconn : ppr.state = .connected) (m : Nat) (hm : m < 65536) (rid : Nat)
    (hl : Ents.lookup w.ents ppr.addr .pub m = some rid) (hq2 : (w.req rid).qos = 2) :
    ∃ t bs, (w.req rid).alarm = some t ∧ encodePUBREL (m : Int) = .ok bs ∧
      handlePUBREC p m w = (retryReleaseW p w.nextReq false (afterPubrec w ppr.addr m rid t bs ppr.initialT), none) := by
  have hpa : w.paddr p = ppr.addr := paddr_of_get? hpp
  obtain ⟨bs, hbs'⟩ : ∃ bs, encodePUBREL (m : Int) = .ok bs := ⟨_, encodeAck_eq 0x62 m hm⟩
  have he := Ents.lookup_some hl
  have hq : (⟨ppr.addr, .pub, m, rid⟩ : Ent).box ≠ .queue := by simp
  obtain ⟨t, d, p0, ht, hpe, hd, hnf, hkey⟩ := window_entry_facts h p ppr hpp hlive hconn he rfl hq
  simp only at ht hpe hd hkey
  refine ⟨t, bs, ht, hbs', ?_⟩
  unfold handlePUBREC
  generalize hE : encodePUBREL (m : Int) = E
  rw [hbs'] at hE; subst hE
  simp only [read_apply, hpa, hl, ne_eq, hq2, not_true_eq_false, ↓reduceIte]
  have s1 : cancelAlarm (w.req rid).alarm w = ({ w with timers := cancelT w t }, none) := by
    rw [ht]; exact cancelTimer_pending w t _ hpe
  rw [seq_ok s1]
  have s2 : setEnts (fun es => Ents.remove es ppr.addr .pub m) { w with timers := cancelT w t }
      = (dropArmed w ⟨ppr.addr, .pub, m, rid⟩ t, none) := rfl
  rw [seq_ok s2]
  simp only [read_apply]
  have hidf := dropArmed_idFree h he hq t
  have hlook : Ents.lookup (dropArmed w ⟨ppr.addr, .pub, m, rid⟩ t).ents ppr.addr .rel m = none := by
    cases hl2 : Ents.lookup (dropArmed w ⟨ppr.addr, .pub, m, rid⟩ t).ents ppr.addr .rel m with
    | none => rfl
    | some r2 => exact absurd (by simp [idOf]) (hidf _ (Ents.lookup_some hl2))
  have hins : Ents.insert (dropArmed w ⟨ppr.addr, .pub, m, rid⟩ t).ents ppr.addr .rel m (dropArmed w ⟨ppr.addr, .pub, m, rid⟩ t).nextReq
      = (dropArmed w ⟨ppr.addr, .pub, m, rid⟩ t).ents ++ [⟨ppr.addr, .rel, m, w.nextReq⟩] := Ents.insert_of_lookup_none _ hlook
  have hpa' : (dropArmed w ⟨ppr.addr, .pub, m, rid⟩ t).paddr p = ppr.addr := hpa
  have hpi' : ((dropArmed w ⟨ppr.addr, .pub, m, rid⟩ t).proto p).initialT = ppr.initialT := by
    show (w.proto p).initialT = _; rw [getD_of_get? hpp]
  simp only [Step.seq, mod_apply, setEnts, retryRelease, World.setEnts]
  rw [hpa', hpi', hins]
  rfl

theorem handlePUBREC_inv {w : World} (h : WInv w) (p : Nat) (ppr : Proto) (hpp : w.protos.get? p = some ppr)
    (hlive : ppr.lost = false) (hconn : ppr.state = .connected) (m : Nat) (hm : m < 65536) :
    (handlePUBREC p m w).2 = none ∧ WInv (handlePUBREC p m w).1 := by
  have hpa : w.paddr p = ppr.addr := paddr_of_get? hpp
  cases hl : Ents.lookup w.ents ppr.addr .pub m with
  | none => rw [handlePUBREC_unknown p m w (hpa ▸ hl)]; exact ⟨rfl, h⟩
  | some rid =>
    by_cases hq2 : (w.req rid).qos = 2
    case neg => rw [handlePUBREC_wrong_qos p m rid w (hpa ▸ hl) hq2]; exact ⟨rfl, h⟩
    obtain ⟨t, bs, ht, _, heq⟩ := handlePUBREC_effect h p ppr hpp hlive hconn m hm rid hl hq2
    rw [heq]
    have he := Ents.lookup_some hl
    have hq : (⟨ppr.addr, .pub, m, rid⟩ : Ent).box ≠ .queue := by simp
    have hmem := dropArmed_mem h he hq t
    obtain ⟨d, hd⟩ := h.dfd_of_window he hq
    have hdf := h.dfdFresh _ he d hd
    obtain ⟨o1, o2⟩ := h.dfd_owned he hd
    have h4req : ∀ r, (afterPubrec w ppr.addr m rid t bs ppr.initialT).req r = if w.nextReq = r then _ else w.req r :=
      fun r => req_set (dropArmed w ⟨ppr.addr, .pub, m, rid⟩ t) w.nextReq _ r _ rfl
    refine ⟨rfl, enterWindow_inv (dropArmed_inv h he hq ht) ⟨ppr.addr, .rel, m, w.nextReq⟩ (retryReleaseW_sent p w.nextReq false _) rfl
      ?_ ?_ (Nat.lt_succ_self _) (Nat.le_succ _) (Nat.le_refl _) (by simp) (by rw [h4req, if_pos rfl]) (h.keyId _ he hq).2
      (dropArmed_idFree h he hq t) (by rw [h4req, if_pos rfl]; exact hd) hdf.1 hdf.2
      (fun y hy => o1 y ((hmem y).mp hy).1 ((hmem y).mp hy).2) o2 hpp rfl hlive⟩
    · intro y hy
      rw [h4req, if_neg (Nat.ne_of_gt (h.ridFresh y ((hmem y).mp hy).1))]; rfl
    · intro y hy hc
      exact Nat.lt_irrefl _ (hc ▸ h.ridFresh y ((hmem y).mp hy).1)

end Mqtt
