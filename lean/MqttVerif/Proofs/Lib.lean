import MqttVerif.Proofs.Pass
/-
  Lemma library for the session-layer proofs: insertion-ordered dictionaries, the flat entry
  list, and `Step.Returns` for handlers that raise nothing.
-/
namespace Mqtt

theorem getD_of_get? {w : World} {p : Nat} {pr : Proto} (h : w.protos.get? p = some pr) : w.proto p = pr := by
  simp [World.proto, h]

theorem paddr_of_get? {w : World} {p : Nat} {pr : Proto} (h : w.protos.get? p = some pr) : w.paddr p = pr.addr :=
  congrArg Proto.addr (getD_of_get? h)

namespace Dict
variable {α : Type}

@[grind =] theorem get?_nil (k : Nat) : get? ([] : Dict α) k = none := rfl

@[grind =] theorem get?_set (d : Dict α) (k k' : Nat) (v : α) :
    get? (set d k v) k' = if k = k' then some v else get? d k' := by
  induction d with
  | nil => simp [set, get?]
  | cons hd tl ih =>
    obtain ⟨a, b⟩ := hd
    simp only [set]
    by_cases h : a = k
    · subst h
      by_cases h2 : a = k' <;> simp [get?, h2]
    · by_cases h2 : k = k'
      · subst h2; simp [get?, h, ih]
      · simp only [h, ↓reduceIte, get?, ih, h2]

theorem get?_set_cases {d : Dict α} {p q : Nat} {v r : α} (h : (d.set p v).get? q = some r) :
    (q = p ∧ r = v) ∨ (q ≠ p ∧ d.get? q = some r) := by
  rw [get?_set] at h
  split at h
  · exact .inl ⟨Eq.symm ‹_›, (Option.some.inj h).symm⟩
  · exact .inr ⟨fun hc => ‹¬ p = q› hc.symm, h⟩

@[grind =] theorem get?_erase (d : Dict α) (k k' : Nat) (hn : ∀ v, get? d k = some v → True) :
    k ≠ k' → get? (erase d k) k' = get? d k' := by
  intro hne
  induction d with
  | nil => rfl
  | cons hd tl ih =>
    obtain ⟨a, b⟩ := hd
    simp only [erase]
    by_cases h : a = k
    · subst h; simp [get?, hne]
    · simp only [h, ↓reduceIte, get?]
      by_cases h2 : a = k' <;> simp [h2, ih (fun _ _ => trivial)]

theorem set_set (d : Dict α) (k : Nat) (a b : α) : (d.set k a).set k b = d.set k b := by
  induction d with
  | nil => simp [set]
  | cons hd tl ih =>
    obtain ⟨k', v⟩ := hd
    by_cases h : k' = k <;> simp [set, h, ih]

end Dict

namespace Ents

def matches' (e : Ent) (a : Nat) (b : Box) (k : Nat) : Prop := e.addr = a ∧ e.box = b ∧ e.key = k

/-- at most one entry per (address, window, key) -/
def KeyUnique (es : List Ent) : Prop :=
  ∀ e1 ∈ es, ∀ e2 ∈ es, e1.addr = e2.addr → e1.box = e2.box → e1.key = e2.key → e1.box ≠ .queue → e1 = e2

theorem lookup_some {es : List Ent} {a : Nat} {b : Box} {k rid : Nat} (h : lookup es a b k = some rid) :
    (⟨a, b, k, rid⟩ : Ent) ∈ es := by
  induction es with
  | nil => simp [lookup] at h
  | cons e r ih =>
    simp only [lookup] at h
    split at h
    · rename_i hm
      obtain ⟨h1, h2, h3⟩ := hm
      injection h with h
      have : e = ⟨a, b, k, rid⟩ := by cases e; simp_all
      simp [this]
    · exact List.mem_cons_of_mem _ (ih h)

theorem lookup_none {es : List Ent} {a : Nat} {b : Box} {k : Nat} (h : lookup es a b k = none) :
    ∀ e ∈ es, ¬ (e.addr = a ∧ e.box = b ∧ e.key = k) := by
  induction es with
  | nil => simp
  | cons e r ih =>
    simp only [lookup] at h
    split at h
    · simp at h
    · rename_i hm
      intro e' he'
      simp at he'
      rcases he' with rfl | he'
      · exact hm
      · exact ih h e' he'

theorem lookup_of_mem {es : List Ent} (hu : KeyUnique es) {e : Ent} (he : e ∈ es) (hq : e.box ≠ .queue) :
    lookup es e.addr e.box e.key = some e.rid := by
  cases h : lookup es e.addr e.box e.key with
  | none => exact absurd ⟨rfl, rfl, rfl⟩ (lookup_none h e he)
  | some rid =>
    have hm := lookup_some h
    have := hu _ hm _ he rfl rfl rfl hq
    rw [← this]

theorem remove_eq_eraseP (es : List Ent) (a : Nat) (b : Box) (k : Nat) :
    remove es a b k = es.eraseP fun e => e.addr = a ∧ e.box = b ∧ e.key = k := by
  induction es with
  | nil => rfl
  | cons x r ih =>
    simp only [remove, List.eraseP_cons, ih]
    split <;> simp [*]

theorem mem_remove {es : List Ent} {a : Nat} {b : Box} {k : Nat} {e : Ent} (h : e ∈ remove es a b k) : e ∈ es :=
  List.mem_of_mem_eraseP (remove_eq_eraseP .. ▸ h)

theorem mem_remove_iff {es : List Ent} (hu : KeyUnique es) (hnd : es.Nodup) {e : Ent} (he : e ∈ es) (hq : e.box ≠ .queue) (y : Ent) :
    y ∈ remove es e.addr e.box e.key ↔ y ∈ es ∧ y ≠ e := by
  -- the first entry with the key of `e` is `e` itself, and it occurs once
  obtain ⟨x, l₁, l₂, _, hx, rfl, her⟩ := List.exists_of_eraseP he (p := fun x => x.addr = e.addr ∧ x.box = e.box ∧ x.key = e.key)
    (by simp)
  have hx := of_decide_eq_true hx
  cases hu e he x (by simp) hx.1.symm hx.2.1.symm hx.2.2.symm hq
  have hn := (List.nodup_cons.mp (List.perm_middle.nodup_iff.mp hnd)).1
  rw [remove_eq_eraseP, her, List.perm_middle.mem_iff, List.mem_cons]
  constructor
  · intro hy
    exact ⟨Or.inr hy, fun hc => hn (hc ▸ hy)⟩
  · rintro ⟨hy, hne⟩
    exact hy.resolve_left hne

/-- the only case of `insert` that occurs: identifiers are fresh -/
theorem insert_of_lookup_none {es : List Ent} {a : Nat} {b : Box} {k : Nat} (rid : Nat) (h : lookup es a b k = none) :
    insert es a b k rid = es ++ [⟨a, b, k, rid⟩] := by
  induction es with
  | nil => rfl
  | cons x r ih =>
    simp only [lookup] at h
    split at h
    · simp at h
    · rename_i hm
      simp only [insert, hm, ↓reduceIte, List.cons_append, ih h]

theorem mem_insert {es : List Ent} {a : Nat} {b : Box} {k rid : Nat} {y : Ent} (h : y ∈ insert es a b k rid) :
    y ∈ es ∨ y = ⟨a, b, k, rid⟩ := by
  induction es with
  | nil => simp [insert] at h; exact Or.inr h
  | cons e r ih =>
    simp only [insert] at h
    split at h
    · simp only [List.mem_cons] at h
      rcases h with rfl | h
      · exact Or.inr rfl
      · exact Or.inl (List.mem_cons_of_mem _ h)
    · simp only [List.mem_cons] at h
      rcases h with rfl | h
      · exact Or.inl (by simp)
      · rcases ih h with h | h
        · exact Or.inl (List.mem_cons_of_mem _ h)
        · exact Or.inr h


theorem mem_insert_self (es : List Ent) (a : Nat) (b : Box) (k rid : Nat) : (⟨a, b, k, rid⟩ : Ent) ∈ insert es a b k rid := by
  induction es with
  | nil => simp [insert]
  | cons e r ih =>
    simp only [insert]
    split
    · simp
    · exact List.mem_cons_of_mem _ ih


theorem mem_items {es : List Ent} {a : Nat} {b : Box} {e : Ent} : e ∈ items es a b ↔ e ∈ es ∧ e.addr = a ∧ e.box = b := by
  induction es with
  | nil => simp [items]
  | cons x r ih =>
    simp only [items]
    split
    · rename_i hm
      simp only [List.mem_cons, ih]
      constructor
      · rintro (rfl | h)
        · exact ⟨Or.inl rfl, hm⟩
        · exact ⟨Or.inr h.1, h.2⟩
      · rintro ⟨rfl | h, h2⟩
        · left; rfl
        · right; exact ⟨h, h2⟩
    · rename_i hm
      simp only [List.mem_cons, ih]
      constructor
      · rintro h; exact ⟨Or.inr h.1, h.2⟩
      · rintro ⟨rfl | h, h2⟩
        · exact absurd h2 hm
        · exact ⟨h, h2⟩

theorem items_nodup {es : List Ent} (h : es.Nodup) (a : Nat) (b : Box) : (items es a b).Nodup := by
  induction es with
  | nil => simp [items]
  | cons x r ih =>
    have hr := (List.nodup_cons.mp h)
    simp only [items]
    split
    · refine List.nodup_cons.mpr ⟨fun hm => hr.1 (mem_items.mp hm).1, ih hr.2⟩
    · exact ih hr.2

theorem dropFirst_eq_eraseP (es : List Ent) (a : Nat) (b : Box) :
    dropFirst es a b = es.eraseP fun e => e.addr = a ∧ e.box = b := by
  induction es with
  | nil => rfl
  | cons x r ih =>
    simp only [dropFirst, List.eraseP_cons, ih]
    split <;> simp [*]

theorem mem_dropFirst {es : List Ent} {a : Nat} {b : Box} {e : Ent} (h : e ∈ dropFirst es a b) : e ∈ es :=
  List.mem_of_mem_eraseP (dropFirst_eq_eraseP .. ▸ h)

theorem dropFirst_spec {es : List Ent} {a : Nat} {b : Box} {e : Ent} {rest : List Ent} (h : items es a b = e :: rest)
    (hnd : es.Nodup) : (∀ x, x ∈ dropFirst es a b ↔ x ∈ es ∧ x ≠ e) ∧ items (dropFirst es a b) a b = rest ∧ (dropFirst es a b).Nodup := by
  induction es with
  | nil => simp [items] at h
  | cons x r ih =>
    have hr := List.nodup_cons.mp hnd
    simp only [items] at h
    simp only [dropFirst]
    split at h
    · rename_i hm
      injection h with h1 h2
      subst h1
      simp only [hm, and_self, ↓reduceIte]
      refine ⟨fun y => ?_, h2, hr.2⟩
      constructor
      · intro hy; exact ⟨List.mem_cons_of_mem _ hy, fun hc => hr.1 (hc ▸ hy)⟩
      · rintro ⟨hy, hne⟩
        simp at hy
        rcases hy with rfl | hy
        · exact absurd rfl hne
        · exact hy
    · rename_i hm
      simp only [hm, ↓reduceIte]
      obtain ⟨i1, i2, i3⟩ := ih h hr.2
      refine ⟨fun y => ?_, ?_, ?_⟩
      · simp only [List.mem_cons, i1]
        constructor
        · rintro (rfl | ⟨hy, hne⟩)
          · refine ⟨Or.inl rfl, fun hc => ?_⟩
            have : e ∈ items r a b := by rw [h]; simp
            have := (mem_items.mp this)
            rw [← hc] at this
            exact hm this.2
          · exact ⟨Or.inr hy, hne⟩
        · rintro ⟨rfl | hy, hne⟩
          · left; rfl
          · right; exact ⟨hy, hne⟩
      · simp only [items, hm, ↓reduceIte]; exact i2
      · refine List.nodup_cons.mpr ⟨fun hc => hr.1 ((i1 x).mp hc).1, i3⟩

theorem remove_nodup {es : List Ent} (h : es.Nodup) (a : Nat) (b : Box) (k : Nat) : (remove es a b k).Nodup :=
  remove_eq_eraseP .. ▸ h.eraseP _

end Ents

/-- started in `w`, `s` returns normally, in a world that satisfies `Q`: the form of every statement "handler `s` raises
    nothing and preserves the invariant". The rules below thread it through the control operators; the world in between
    is a variable (`seq`) or the explicit result of a primitive (`seq_eq`). -/
def Step.Returns (s : Step) (w : World) (Q : World → Prop) : Prop := (s w).2 = none ∧ Q (s w).1

namespace Step.Returns
variable {s a b : Step} {w w1 : World} {Q R : World → Prop}

theorem of_eq (h : s w = (w1, none)) (hQ : Q w1) : Step.Returns s w Q := by
  rw [Step.Returns, h]
  exact ⟨rfl, hQ⟩

theorem mono (h : Step.Returns s w Q) (hQ : ∀ w', Q w' → R w') : Step.Returns s w R := ⟨h.1, hQ _ h.2⟩

theorem read {f : World → Step} (h : Step.Returns (f w) w Q) : Step.Returns (Step.read f) w Q := h

theorem seq (ha : Step.Returns a w Q) (hb : ∀ w1, Q w1 → Step.Returns b w1 R) : Step.Returns (a ;; b) w R := by
  obtain ⟨h1, h2⟩ := ha
  have e : (a ;; b) w = b (a w).1 := seq_ok (Prod.ext rfl h1)
  rw [Step.Returns, e]
  exact hb _ h2

theorem seq_eq (ha : a w = (w1, none)) (hb : Step.Returns b w1 R) : Step.Returns (a ;; b) w R := by
  rw [Step.Returns, seq_ok ha]
  exact hb

/-- `try: a / except: d / else: b`, when `a` does not raise -/
theorem attempt {d : Step} (ha : Step.Returns a w Q) (hb : ∀ w1, Q w1 → Step.Returns b w1 R) :
    Step.Returns (fun w => match a w with | (w', none) => b w' | (w', some _) => d w') w R := by
  obtain ⟨h1, h2⟩ := ha
  have e : a w = ((a w).1, none) := Prod.ext rfl h1
  rw [Step.Returns, e]
  exact hb _ h2

end Step.Returns

@[simp] theorem Step.returns_read {f : World → Step} {w : World} {Q : World → Prop} :
    Step.Returns (Step.read f) w Q ↔ Step.Returns (f w) w Q := Iff.rfl

end Mqtt
