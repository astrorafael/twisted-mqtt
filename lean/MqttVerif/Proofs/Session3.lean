import MqttVerif.Proofs.ProtoT
/-
  Session resumption (`mqttConnectionMade`): purge / sync of the inherited windows and the refill
  of the publish window, with the postcondition that every in-flight entry of the address is armed.
-/
namespace Mqtt

theorem retryPublishW_ents (p rid : Nat) (dup : Bool) (w : World) : (retryPublishW p rid dup w).ents = w.ents :=
  (retryPublishW_sent p rid dup w).ents
theorem retryReleaseW_ents (p rid : Nat) (dup : Bool) (w : World) : (retryReleaseW p rid dup w).ents = w.ents :=
  (retryReleaseW_sent p rid dup w).ents
theorem retryReleaseW_protos (p rid : Nat) (dup : Bool) (w : World) : (retryReleaseW p rid dup w).protos = w.protos :=
  (retryReleaseW_sent p rid dup w).protos

def Armed (w : World) (a : Nat) : Prop := ∀ e ∈ w.ents, e.addr = a → e.box ≠ .queue → (w.req e.rid).alarm ≠ none

/-! ### `_purgeSession` -/

structure Removed (w w' : World) : Prop where
  reqs : w'.reqs = w.reqs
  protos : w'.protos = w.protos
  timers : w'.timers = w.timers
  connReqs : w'.connReqs = w.connReqs
  sub : ∀ y ∈ w'.ents, y ∈ w.ents
  nextDfd : w'.nextDfd = w.nextDfd
  fmono : ∀ d ∈ w.fired, d ∈ w'.fired
  /-- an entry that left its container had no identifier (a held-back QoS 0 message) or has had its Deferred fired -/
  gone : ∀ y ∈ w.ents, y ∈ w'.ents ∨ (w.req y.rid).msgId = 0 ∨ ∀ d, (w.req y.rid).dfd = some d → d ∈ w'.fired

theorem Removed.refl (w : World) : Removed w w := ⟨rfl, rfl, rfl, rfl, fun _ h => h, rfl, fun _ h => h, fun _ h => Or.inl h⟩

theorem Removed.trans {w1 w2 w3 : World} (a : Removed w1 w2) (b : Removed w2 w3) : Removed w1 w3 :=
  ⟨b.reqs.trans a.reqs, b.protos.trans a.protos, b.timers.trans a.timers, b.connReqs.trans a.connReqs,
   fun y hy => a.sub y (b.sub y hy), b.nextDfd.trans a.nextDfd, fun d hd => b.fmono d (a.fmono d hd),
   fun y hy => by
     rw [← req_of_reqs a.reqs]
     rcases a.gone y hy with h1 | h1 | h1
     · exact b.gone y h1
     · exact .inr (.inl (req_of_reqs a.reqs _ ▸ h1))
     · exact .inr (.inr fun d hd => b.fmono d (h1 d (req_of_reqs a.reqs _ ▸ hd)))⟩

theorem Removed.drop {w w' : World} {e : Ent} (hmem : ∀ y, y ∈ w'.ents ↔ y ∈ w.ents ∧ y ≠ e) (hr : w'.reqs = w.reqs)
    (hp : w'.protos = w.protos) (ht : w'.timers = w.timers) (hc : w'.connReqs = w.connReqs) (hn : w'.nextDfd = w.nextDfd)
    (hf : ∀ d ∈ w.fired, d ∈ w'.fired) (hgone : (w.req e.rid).msgId = 0 ∨ ∀ d, (w.req e.rid).dfd = some d → d ∈ w'.fired) :
    Removed w w' :=
  ⟨hr, hp, ht, hc, fun y hy => ((hmem y).mp hy).1, hn, hf, fun y hy => by
    by_cases hye : y = e
    · exact Or.inr (hye ▸ hgone)
    · exact Or.inl ((hmem y).mpr ⟨hy, hye⟩)⟩

theorem dropFail_inv {x : Option Nat} {w : World} (h : WInvX x w) {e : Ent} (he : e ∈ w.ents) (hal : (w.req e.rid).alarm = none) (hm : (w.req e.rid).msgId ≠ 0)
    {es' : List Ent} (hnd : es'.Nodup) (hmem : ∀ y, y ∈ es' ↔ y ∈ w.ents ∧ y ≠ e) (reason : Err) :
    Step.Returns (fireReqDfd (w.req e.rid).dfd (.fail reason)) { w with ents := es' } fun w' =>
      WInvX x w' ∧ w'.ents = es' ∧ Removed w w' := by
  obtain ⟨d, hd⟩ := Option.ne_none_iff_exists'.mp (h.dfdSome e he hm)
  have hdf := h.dfdFresh e he d hd
  obtain ⟨o1, o2⟩ := h.dfd_owned he hd
  rw [hd]
  exact .of_eq (fireDfd_unfired _ d _ hdf.2) ⟨fireD_inv (dropQuiet_inv h hal _ hnd hmem) hdf.1
      (fun y hy => o1 y ((hmem y).mp hy).1 ((hmem y).mp hy).2) (fun _ cr c _ => o2 cr c) (fun _ _ cr c _ _ => o2 cr c) _, rfl,
    .drop hmem rfl rfl rfl rfl rfl (fun _ hd' => List.mem_cons_of_mem _ hd') (.inr fun d' hd' => by
      cases hd.symm.trans hd'
      exact List.mem_cons_self)⟩

structure Purged (w w' : World) (l : List Ent) : Prop where
  reqs : w'.reqs = w.reqs
  protos : w'.protos = w.protos
  timers : w'.timers = w.timers
  connReqs : w'.connReqs = w.connReqs
  mem : ∀ y, y ∈ w'.ents ↔ y ∈ w.ents ∧ ¬ (y ∈ l ∧ (w.req y.rid).alarm = none)
  nextDfd : w'.nextDfd = w.nextDfd
  fmono : ∀ d ∈ w.fired, d ∈ w'.fired
  gone : ∀ y ∈ w.ents, y ∈ w'.ents ∨ ∀ d, (w.req y.rid).dfd = some d → d ∈ w'.fired

theorem purgeLoop_inv {x : Option Nat} (box : Box) (hbq : box ≠ .queue) (reason : Err) : ∀ (l : List Ent) {w : World}, WInvX x w →
    (∀ e ∈ l, e ∈ w.ents ∧ e.box = box) → l.Nodup →
    Step.Returns (forEach l fun e => Step.read fun w =>
        if (w.req e.rid).alarm = none then
          setEnts (fun es => Ents.remove es e.addr box e.key) ;; fireReqDfd (w.req e.rid).dfd (.fail reason)
        else Step.ok) w fun w' =>
      WInvX x w' ∧ Removed w w' ∧ ∀ y, y ∈ w'.ents ↔ y ∈ w.ents ∧ ¬ (y ∈ l ∧ (w.req y.rid).alarm = none)
  | [], w, h, _, _ => .of_eq rfl ⟨h, .refl w, fun y => by simp⟩
  | e :: l, w, h, hl, hnd => by
    obtain ⟨he, heb⟩ := hl e (.head _)
    have hq : e.box ≠ .queue := heb ▸ hbq
    have hnd' := List.nodup_cons.mp hnd
    have hk := h.keyId e he hq
    have hmem := mem_remove_iff h he hq
    have h1 : Step.Returns (Step.read fun w => if (w.req e.rid).alarm = none then
          setEnts (fun es => Ents.remove es e.addr box e.key) ;; fireReqDfd (w.req e.rid).dfd (.fail reason) else Step.ok) w fun w1 =>
        WInvX x w1 ∧ Removed w w1 ∧ ∀ y, y ∈ w1.ents ↔ y ∈ w.ents ∧ ¬ (y = e ∧ (w.req e.rid).alarm = none) := by
      rw [Step.returns_read]
      split
      · rename_i hal
        refine .seq_eq rfl ((dropFail_inv h he hal (hk.1 ▸ hk.2) (Ents.remove_nodup h.nodup _ _ _) (heb ▸ hmem) reason).mono
          fun w1 ⟨i1, e1, r1⟩ => ⟨i1, r1, fun y => ?_⟩)
        rw [e1, ← heb, hmem y]
        exact and_congr_right fun _ => ⟨fun a b => a b.1, fun a b => a ⟨b, hal⟩⟩
      · rename_i hal
        exact .of_eq rfl ⟨h, .refl w, fun y => ⟨fun a => ⟨a, fun b => hal b.2⟩, fun a => a.1⟩⟩
    refine .seq h1 fun w1 ⟨i1, r1, m1⟩ => (purgeLoop_inv box hbq reason l i1 (fun e' he' => ?_) hnd'.2).mono
      fun w2 ⟨i2, r2, m2⟩ => ⟨i2, r1.trans r2, fun y => ?_⟩
    · exact ⟨(m1 e').mpr ⟨(hl e' (.tail _ he')).1, fun hc => hnd'.1 (hc.1 ▸ he')⟩, (hl e' (.tail _ he')).2⟩
    · rw [m2 y, m1 y, req_of_reqs r1.reqs, List.mem_cons]
      constructor
      · rintro ⟨⟨a, b⟩, c⟩
        exact ⟨a, fun ⟨d, f⟩ => d.elim (fun d => b ⟨d, d ▸ f⟩) fun d => c ⟨d, f⟩⟩
      · rintro ⟨a, b⟩
        exact ⟨⟨a, fun c => b ⟨.inl c.1, c.1 ▸ c.2⟩⟩, fun c => b ⟨.inr c.1, c.2⟩⟩

theorem purgeWindow_inv {x : Option Nat} {w : World} (h : WInvX x w) (p : Nat) (rel : Bool) (reason : Err) :
    (purgeWindow p rel reason w).2 = none ∧ WInvX x (purgeWindow p rel reason w).1 ∧
    Purged w (purgeWindow p rel reason w).1 (Ents.items w.ents (w.paddr p) (if rel then .rel else .pub)) := by
  have hbq : (if rel then Box.rel else Box.pub) ≠ .queue := by cases rel <;> simp
  obtain ⟨a1, a2, r, m⟩ := purgeLoop_inv _ hbq reason _ h (fun e he => ⟨(Ents.mem_items.mp he).1, (Ents.mem_items.mp he).2.2⟩)
    (Ents.items_nodup h.nodup _ _)
  refine ⟨a1, a2, r.reqs, r.protos, r.timers, r.connReqs, m, r.nextDfd, r.fmono, fun y hy => ?_⟩
  by_cases hc : y ∈ Ents.items w.ents (w.paddr p) (if rel then .rel else .pub) ∧ (w.req y.rid).alarm = none
  · -- an entry of a window has an identifier
    have hk := h.keyId y hy ((Ents.mem_items.mp hc.1).2.2 ▸ hbq)
    exact .inr (((r.gone y hy).resolve_left fun hin => ((m y).mp hin).2 hc).resolve_left (hk.1 ▸ hk.2))
  · exact .inl ((m y).mpr ⟨hy, hc⟩)

def ArmedIn (B : Box → Prop) (w : World) (a : Nat) : Prop := ∀ e ∈ w.ents, e.addr = a → B e.box → (w.req e.rid).alarm ≠ none

theorem ArmedIn.mono {B : Box → Prop} {w w' : World} {a : Nat} (h : ArmedIn B w a) (hsub : ∀ y ∈ w'.ents, y ∈ w.ents)
    (hal : ∀ r, (w.req r).alarm ≠ none → (w'.req r).alarm ≠ none) : ArmedIn B w' a :=
  fun e he ha hb => hal _ (h e (hsub e he) ha hb)

theorem purgeSession_inv {x : Option Nat} {w : World} (h : WInvX x w) (p : Nat) (reason : Err) :
    (purgeSession p reason w).2 = none ∧ WInvX x (purgeSession p reason w).1 ∧
    (purgeSession p reason w).1.reqs = w.reqs ∧ (purgeSession p reason w).1.protos = w.protos ∧
    (purgeSession p reason w).1.timers = w.timers ∧ (purgeSession p reason w).1.connReqs = w.connReqs ∧
    (∀ y ∈ (purgeSession p reason w).1.ents, y ∈ w.ents) ∧
    (∀ y ∈ w.ents, y.box = .queue ∨ y.box = .sub ∨ y.box = .unsub ∨ y.addr ≠ w.paddr p → y ∈ (purgeSession p reason w).1.ents) ∧
    ArmedIn (fun b => b = .pub ∨ b = .rel) (purgeSession p reason w).1 (w.paddr p) ∧
    (purgeSession p reason w).1.nextDfd = w.nextDfd ∧ (∀ d ∈ w.fired, d ∈ (purgeSession p reason w).1.fired) ∧
    (∀ y ∈ w.ents, y ∈ (purgeSession p reason w).1.ents ∨ ∀ d, (w.req y.rid).dfd = some d → d ∈ (purgeSession p reason w).1.fired) := by
  obtain ⟨a1, a2, a3⟩ := purgeWindow_inv h p false reason
  have s1 : purgeWindow p false reason w = ((purgeWindow p false reason w).1, none) := Prod.ext rfl a1
  obtain ⟨w1, hw1⟩ : ∃ w1, w1 = (purgeWindow p false reason w).1 := ⟨_, rfl⟩
  rw [← hw1] at s1 a2 a3
  obtain ⟨b1, b2, b3⟩ := purgeWindow_inv a2 p true reason
  have hpa : w1.paddr p = w.paddr p := by simp [World.paddr, World.proto, a3.protos]
  have hreq : ∀ r, w1.req r = w.req r := req_of_reqs a3.reqs
  have hreq2 : ∀ r, (purgeWindow p true reason w1).1.req r = w.req r := fun r => by rw [req_of_reqs b3.reqs, hreq]
  simp only [purgeSession]
  rw [seq_ok s1]
  refine ⟨b1, b2, by rw [b3.reqs, a3.reqs], by rw [b3.protos, a3.protos], by rw [b3.timers, a3.timers], by rw [b3.connReqs, a3.connReqs], ?_, ?_, ?_,
    by rw [b3.nextDfd, a3.nextDfd], fun d hd => b3.fmono d (a3.fmono d hd), fun y hy => ?_⟩
  rotate_left 3
  · rcases a3.gone y hy with h1 | h1
    · rcases b3.gone y h1 with h2 | h2
      · exact Or.inl h2
      · exact Or.inr (fun d hd => h2 d (by rw [hreq]; exact hd))
    · exact Or.inr (fun d hd => b3.fmono d (h1 d hd))
  · intro y hy; exact ((a3.mem y).mp ((b3.mem y).mp hy).1).1
  · intro y hy hb
    have hout : ∀ (es : List Ent) (rel : Bool), y ∉ Ents.items es (w.paddr p) (if rel then .rel else .pub) := fun es rel hc => by
      have := Ents.mem_items.mp hc
      rcases hb with hb | hb | hb | hb
      · rw [this.2.2] at hb; cases rel <;> cases hb
      · rw [this.2.2] at hb; cases rel <;> cases hb
      · rw [this.2.2] at hb; cases rel <;> cases hb
      · exact hb this.2.1
    exact (b3.mem y).mpr ⟨(a3.mem y).mpr ⟨hy, fun hc => hout _ false hc.1⟩, fun hc => hout _ true (hpa ▸ hc.1)⟩
  · intro y hy hya hyb
    rw [hreq2]
    have hy2 := (b3.mem y).mp hy
    have hy1 := (a3.mem y).mp hy2.1
    rcases hyb with hyb | hyb
    · intro hc
      exact hy1.2 ⟨Ents.mem_items.mpr ⟨hy1.1, hya, hyb⟩, hc⟩
    · intro hc
      exact hy2.2 ⟨Ents.mem_items.mpr ⟨hy2.1, by rw [hpa]; exact hya, hyb⟩, by rw [hreq]; exact hc⟩

/-! ### `_syncSession` -/

theorem syncLoop_inv {x : Option Nat} (p : Nat) (ppr : Proto) (hlive : ppr.lost = false) (send : Nat → World → World)
    (hsend : ∀ rid w, Sent p rid w (send rid w)) :
    ∀ (l : List Ent) {w : World}, WInvX x w → w.protos.get? p = some ppr →
    (∀ e ∈ l, e ∈ w.ents ∧ e.box ≠ .queue ∧ e.addr = ppr.addr) →
    let w' := l.foldl (fun w e => if (w.req e.rid).alarm = none then send e.rid w else w) w
    WInvX x w' ∧ w'.protos = w.protos ∧ w'.ents = w.ents ∧ (∀ r, (w.req r).alarm ≠ none → (w'.req r).alarm ≠ none) ∧
    (∀ e ∈ l, (w'.req e.rid).alarm ≠ none) ∧ w'.connReqs = w.connReqs := by
  intro l
  induction l with
  | nil => intro w h _ _; exact ⟨h, rfl, rfl, fun _ a => a, fun _ he => (by cases he), rfl⟩
  | cons e l ih =>
    intro w h hpp hl
    obtain ⟨he, hq, hea⟩ := hl e (by simp)
    simp only [List.foldl_cons]
    by_cases hal : (w.req e.rid).alarm = none
    · simp only [hal, ↓reduceIte]
      have s := hsend e.rid w
      have hm0 : (w.req e.rid).msgId ≠ 0 := (h.keyId e he hq).1 ▸ (h.keyId e he hq).2
      obtain ⟨r1, r2, r3, r4, r5, r6⟩ := ih (sent_inv (n := w.now) h he hq hal hpp hea.symm hlive s) (s.protos ▸ hpp)
        (fun e' he' => s.ents ▸ hl e' (by simp [he']))
      refine ⟨r1, r2.trans s.protos, r3.trans s.ents, fun r hr => r4 r (s.alarm_mono hr), fun e' he' => ?_, r6.trans s.connReqs⟩
      rcases List.mem_cons.mp he' with rfl | he'
      · exact r4 _ (s.armed hm0)
      · exact r5 e' he'
    · simp only [hal, ↓reduceIte]
      obtain ⟨r1, r2, r3, r4, r5, r6⟩ := ih h hpp (fun e' he' => hl e' (by simp [he']))
      refine ⟨r1, r2, r3, r4, fun e' he' => ?_, r6⟩
      rcases List.mem_cons.mp he' with rfl | he'
      · exact r4 _ hal
      · exact r5 e' he'

theorem syncW_inv {x : Option Nat} {w : World} (h : WInvX x w) (p : Nat) (ppr : Proto) (hpp : w.protos.get? p = some ppr)
    (hlive : ppr.lost = false) :
    WInvX x (syncW p w) ∧ (syncW p w).protos = w.protos ∧ (syncW p w).ents = w.ents ∧
    (∀ r, (w.req r).alarm ≠ none → ((syncW p w).req r).alarm ≠ none) ∧
    ArmedIn (fun b => b = .pub ∨ b = .rel) (syncW p w) ppr.addr ∧ (syncW p w).connReqs = w.connReqs := by
  have hpa : w.paddr p = ppr.addr := paddr_of_get? hpp
  have A := syncLoop_inv (x := x) p ppr hlive _ (fun rid w => retryReleaseW_sent p rid true w) (Ents.items w.ents ppr.addr .rel) h hpp
    (fun e he => ⟨(Ents.mem_items.mp he).1, by rw [(Ents.mem_items.mp he).2.2]; simp, (Ents.mem_items.mp he).2.1⟩)
  obtain ⟨w1, hw1⟩ : ∃ w1, w1 = (Ents.items w.ents ppr.addr .rel).foldl (fun w e => if (w.req e.rid).alarm = none then
        retryReleaseW p e.rid true w else w) w := ⟨_, rfl⟩
  rw [← hw1] at A
  obtain ⟨a1, a2, a3, a4, a5, a6⟩ := A
  have hpa1 : w1.paddr p = ppr.addr := by simp [World.paddr, World.proto, a2, hpp]
  have B := syncLoop_inv (x := x) p ppr hlive _ (fun rid w => retryPublishW_sent p rid true w) (Ents.items w1.ents ppr.addr .pub) a1
    (by rw [a2]; exact hpp)
    (fun e he => ⟨(Ents.mem_items.mp he).1, by rw [(Ents.mem_items.mp he).2.2]; simp, (Ents.mem_items.mp he).2.1⟩)
  have hs : syncW p w = (Ents.items w1.ents ppr.addr .pub).foldl (fun w e => if (w.req e.rid).alarm = none then
        retryPublishW p e.rid true w else w) w1 := by
    simp only [syncW, hpa]
    rw [← hw1, hpa1]
  rw [hs]
  obtain ⟨b1, b2, b3, b4, b5, b6⟩ := B
  refine ⟨b1, by rw [b2, a2], by rw [b3, a3], fun r hr => b4 r (a4 r hr), ?_, by rw [b6, a6]⟩
  intro y hy hya hyb
  rw [b3] at hy
  rcases hyb with hyb | hyb
  · exact b5 y (Ents.mem_items.mpr ⟨hy, hya, hyb⟩)
  · rw [a3] at hy
    exact b4 _ (a5 y (Ents.mem_items.mpr ⟨hy, hya, hyb⟩))

/-! ### `_refillPublish` keeps every in-flight entry armed -/

theorem refillW_armed (p : Nat) (dup : Bool) (a : Nat) (fuel : Nat) :
    ∀ {w : World}, Armed w a → Armed (refillW p dup fuel w) a := by
  induction fuel with
  | zero => intro w h; exact h
  | succ f ih =>
    intro w h
    simp only [refillW]
    cases hit : Ents.items w.ents (w.paddr p) .queue with
    | nil => exact h
    | cons e rest =>
      simp only
      split
      · apply ih
        obtain ⟨w2, hw2⟩ : ∃ w2, w2 = (if (w.req e.rid).msgId ≠ 0 then
            (w.setEnts fun es => Ents.dropFirst es (w.paddr p) Box.queue).setEnts fun es =>
              Ents.insert es (w.paddr p) Box.pub (w.req e.rid).msgId e.rid
          else w.setEnts fun es => Ents.dropFirst es (w.paddr p) Box.queue) := ⟨_, rfl⟩
        rw [← hw2]
        have hreq2 : ∀ r, w2.req r = w.req r := by intro r; rw [hw2]; split <;> rfl
        have s := retryPublishW_sent p e.rid dup w2
        intro y hy hya hyq
        rw [s.ents] at hy
        have hold : y ∈ w.ents → ((retryPublishW p e.rid dup w2).req y.rid).alarm ≠ none :=
          fun hy' => s.alarm_mono (by rw [hreq2]; exact h y hy' hya hyq)
        by_cases hm0 : (w.req e.rid).msgId = 0
        · simp only [hw2, hm0, ne_eq, not_true_eq_false, ↓reduceIte, setEnts_ents] at hy
          exact hold (Ents.mem_dropFirst hy)
        · simp only [hw2, ne_eq, hm0, not_false_eq_true, ↓reduceIte, setEnts_ents] at hy
          rcases Ents.mem_insert hy with hy | rfl
          · exact hold (Ents.mem_dropFirst hy)
          · exact s.armed (by rw [hreq2]; exact hm0)
      · exact h

theorem refillW_connReqs (p : Nat) (dup : Bool) (fuel : Nat) : ∀ (w : World), (refillW p dup fuel w).connReqs = w.connReqs :=
  refillW_rel (R := fun w w' => w'.connReqs = w.connReqs) (fun _ => rfl) (fun a b => b.trans a) p dup (fun _ _ => rfl)
    (fun _ _ _ _ => rfl) (fun w rid => (retryPublishW_sent p rid dup w).connReqs) fuel

end Mqtt
