import MqttVerif.Proofs.Sent
import MqttVerif.Proofs.Pdu
/-
  C06 ("the client never emits these acknowledgements unprompted") and C18: what kind of packet each operation can write.
  `reqHead bs`: the first byte of `bs` has type nibble 3 (PUBLISH), 6 (PUBREL), 8 (SUBSCRIBE) or 10 (UNSUBSCRIBE).  `HeadInv`: the stored
  bytes of every request object have such a first byte -- they come from the four request encoders and only bit 3 (DUP) is ever patched.
  `HW B s`: `s` keeps `HeadInv` and every packet it writes satisfies `B`.  It unfolds to `Step.Rel (Heads B) s` for a reflexive,
  transitive `Heads B`, so the walks of `Pass.lean` reduce every handler to its leaves: what an encoder produces (`publish_head`,
  `withId_head`, `ack_head`, `connect_first`), and that a transmission writes the stored bytes (`Sent.heads`).
-/
namespace Mqtt

def nib (h : Nat) : Nat := h >>> 4

def reqHead : Bytes → Bool
  | [] => false
  | h :: _ => nib h == 3 || nib h == 6 || nib h == 8 || nib h == 10

/-- a packet only a client sends first: CONNECT, PUBLISH, PUBREL, SUBSCRIBE, UNSUBSCRIBE, PINGREQ, DISCONNECT -/
def clientHead : Bytes → Bool
  | [] => false
  | h :: _ => nib h == 1 || nib h == 3 || nib h == 6 || nib h == 8 || nib h == 10 || nib h == 12 || nib h == 14

theorem clientHead_of_reqHead {bs : Bytes} (h : reqHead bs = true) : clientHead bs = true := by
  cases bs with
  | nil => cases h
  | cons a r =>
    simp only [reqHead, clientHead, Bool.or_eq_true] at h ⊢
    rcases h with ((h | h) | h) | h <;> simp [h]

theorem nib_orDup (h : Nat) (b : Bool) : nib (h ||| (b2n b <<< 3)) = nib h := by
  have : (b2n b <<< 3) >>> 4 = 0 := by cases b <;> decide
  rw [nib, Nat.shiftRight_or_distrib, this, Nat.or_zero, nib]

theorem reqHead_patchDup (bs : Bytes) (dup : Bool) (h : reqHead bs = true) : reqHead (patchDup bs dup) = true := by
  cases bs with
  | nil => cases h
  | cons a r => simpa only [patchDup, reqHead, nib_orDup] using h

theorem nib_and_f7 (h : Nat) (hn : nib h < 16) : nib (h &&& 0xF7) = nib h := by
  simp only [nib, Nat.shiftRight_and_distrib] at hn ⊢
  have : (0xF7 : Nat) >>> 4 = 15 := by decide
  rw [this]
  have h15 : (15 : Nat) = 2 ^ 4 - 1 := by decide
  rw [h15, Nat.and_two_pow_sub_one_eq_mod]
  exact Nat.mod_eq_of_lt hn

theorem reqHead_clearDup (bs : Bytes) (h : reqHead bs = true) : reqHead (clearDup bs) = true := by
  cases bs with
  | nil => cases h
  | cons a r =>
    have hn : nib a < 16 := by
      simp only [reqHead, Bool.or_eq_true, beq_iff_eq] at h
      rcases h with ((h | h) | h) | h <;> omega
    simpa only [clearDup, reqHead, nib_and_f7 a hn] using h

theorem reqHead_cons (h : Nat) (r : Bytes) : reqHead ([h] ++ r) = (nib h == 3 || nib h == 6 || nib h == 8 || nib h == 10) := rfl

theorem ok_of_bind_ok {α β : Type} {x : Except Err α} {f : α → Except Err β} {b : β} (h : (x >>= f) = .ok b) :
    ∃ a, x = .ok a ∧ f a = .ok b := by
  cases x with
  | error e => cases h
  | ok a => exact ⟨a, rfl, h⟩

theorem publish_head (f : PublishF) (bs : Bytes) (h : f.encode = .ok bs) (hq : f.qos < 3) (hd : f.dup = false) : reqHead bs = true := by
  -- the header byte is computed first; whatever follows, it ends up in front
  have tail : ∀ h0 vh, (do
      let payload ← f.payload.toBytes
      if vh.length + payload.length > 268435455 then .error .value
      else pure ([h0] ++ encodeLength (vh.length + payload.length) ++ vh ++ payload)) = Except.ok bs → ∃ r, bs = [h0] ++ r := by
    intro h0 vh h
    obtain ⟨pl, -, h⟩ := ok_of_bind_ok h
    split at h
    · cases h
    · cases h
      exact ⟨_, rfl⟩
  unfold PublishF.encode at h
  split at h
  · obtain ⟨b, hb, h⟩ := ok_of_bind_ok h
    obtain ⟨t, -, h⟩ := ok_of_bind_ok h
    dsimp only at h
    split at h
    · cases h
    · obtain ⟨m, -, h⟩ := ok_of_bind_ok h
      obtain ⟨r, rfl⟩ := tail _ _ h
      unfold byte at hb
      split at hb
      · cases hb
        have : f.qos = 1 ∨ f.qos = 2 := by
          have : f.qos ≠ 0 := by simpa using ‹(f.qos != 0) = true›
          omega
        simp only [reqHead_cons, hd]
        rcases this with hqq | hqq <;> rw [hqq] <;> cases f.retain <;> decide
      · cases hb
  · obtain ⟨t, -, h⟩ := ok_of_bind_ok h
    obtain ⟨r, rfl⟩ := tail _ _ h
    rw [reqHead_cons]
    cases f.retain <;> decide

theorem publishPy_head (topic : PyStr) (payload : Payload) (qos : Nat) (retain : Bool) (msgId : Option Int) (bs : Bytes)
    (h : encodePublishPy topic payload qos retain msgId = .ok bs) (hq : qos < 3) : reqHead bs = true := by
  cases topic with
  | str s => exact publish_head ⟨s, payload, qos, false, retain, msgId⟩ bs h hq rfl
  | _ =>
    -- a topic that is not a string: TypeError, after the header byte has been computed
    dsimp only [encodePublishPy] at h
    split at h
    · obtain ⟨_, -, h⟩ := ok_of_bind_ok h
      cases h
    · cases h

theorem withId_head (hdr msgId : Nat) (payload : Except Err Bytes) (bs : Bytes) (h : encodeWithId hdr msgId payload = .ok bs) :
    ∃ r, bs = [hdr] ++ r := by
  obtain ⟨v, -, h⟩ := ok_of_bind_ok h
  obtain ⟨pl, -, h⟩ := ok_of_bind_ok h
  cases h
  exact ⟨_, rfl⟩

theorem ack_head (hdr : Nat) (msgId : Int) (bs : Bytes) (h : encodeAck hdr msgId = .ok bs) : ∃ r, bs = [hdr] ++ r := by
  obtain ⟨v, -, h⟩ := ok_of_bind_ok h
  cases h
  exact ⟨_, rfl⟩

/-- bytes of a request object: none yet, or a request packet -/
def headOk (bs : Bytes) : Bool := bs.isEmpty || reqHead bs
/-- what may go to a transport outside the processing of received bytes: nothing, or a packet only a client originates -/
def clientPkt (bs : Bytes) : Bool := bs.isEmpty || clientHead bs

theorem clientPkt_of_headOk {bs : Bytes} (h : headOk bs = true) : clientPkt bs = true := by
  simp only [headOk, clientPkt, Bool.or_eq_true] at h ⊢
  rcases h with h | h
  · exact Or.inl h
  · exact Or.inr (clientHead_of_reqHead h)
theorem headOk_of_reqHead {bs : Bytes} (h : reqHead bs = true) : headOk bs = true := by rw [headOk, h, Bool.or_true]
theorem headOk_cons (h : Nat) (r : Bytes) (hh : (nib h == 3 || nib h == 6 || nib h == 8 || nib h == 10) = true) : headOk ([h] ++ r) = true :=
  hh
theorem headOk_patchDup (bs : Bytes) (dup : Bool) (h : headOk bs = true) : headOk (patchDup bs dup) = true := by
  cases bs with
  | nil => rfl
  | cons a r => exact reqHead_patchDup (a :: r) dup h
theorem headOk_clearDup (bs : Bytes) (h : headOk bs = true) : headOk (clearDup bs) = true := by
  cases bs with
  | nil => rfl
  | cons a r => exact reqHead_clearDup (a :: r) h

def HeadInv (w : World) : Prop := ∀ rid r, w.reqs.get? rid = some r → headOk r.encoded = true

theorem HeadInv.req {w : World} (h : HeadInv w) (rid : Nat) : headOk (w.req rid).encoded = true := by
  unfold World.req
  cases hq : w.reqs.get? rid with
  | none => rfl
  | some r => exact h rid r hq

def Heads (B : Bytes → Bool) (w w' : World) : Prop :=
  HeadInv w → HeadInv w' ∧ ∃ l, w'.log = w.log ++ l ∧ ∀ q bs, Obs.write q bs ∈ l → B bs = true

def HW (B : Bytes → Bool) (s : Step) : Prop :=
  ∀ w, HeadInv w → HeadInv (s w).1 ∧ ∃ l, (s w).1.log = w.log ++ l ∧ ∀ q bs, Obs.write q bs ∈ l → B bs = true

def HWW (B : Bytes → Bool) (f : World → World) : Prop :=
  ∀ w, HeadInv w → HeadInv (f w) ∧ ∃ l, (f w).log = w.log ++ l ∧ ∀ q bs, Obs.write q bs ∈ l → B bs = true

section hw
variable {B : Bytes → Bool}

theorem Heads.refl (w : World) : Heads B w w := fun h => ⟨h, [], by simp, by simp⟩
theorem Heads.trans {a b c : World} (h1 : Heads B a b) (h2 : Heads B b c) : Heads B a c := by
  intro h
  obtain ⟨a0, l1, a1, a2⟩ := h1 h
  obtain ⟨b0, l2, b1, b2⟩ := h2 a0
  refine ⟨b0, l1 ++ l2, by rw [b1, a1, List.append_assoc], fun q bs ho => ?_⟩
  rcases List.mem_append.mp ho with ho | ho
  · exact a2 q bs ho
  · exact b2 q bs ho

theorem hw_closed : Step.Closed (HW B) := Step.Rel.closed (R := Heads B) Heads.refl Heads.trans

theorem hw_emit (o : Obs) (ho : ∀ q bs, o = .write q bs → B bs = true) : HW B (emit o) := fun _ h =>
  ⟨h, [o], rfl, fun q bs hm => ho q bs (List.mem_singleton.mp hm).symm⟩
theorem hw_emit_other (o : Obs) (ho : ∀ q bs, o ≠ .write q bs) : HW B (emit o) := hw_emit o fun q bs h => absurd h (ho q bs)
theorem hw_write (q : Nat) (bs : Bytes) (hb : B bs = true) : HW B (write q bs) :=
  hw_emit _ fun _ _ h => by cases h; exact hb

theorem hw_putReq {f : World → World} (rid : World → Nat) (R : World → Req) (hR : ∀ w, HeadInv w → headOk (R w).encoded = true)
    (h1 : ∀ w, (f w).reqs = w.reqs.set (rid w) (R w)) (h2 : ∀ w, (f w).log = w.log) : HW B (Step.mod f) := by
  refine fun w h => ⟨fun r0 r hr => ?_, [], by simp [Step.mod, h2 w], by simp⟩
  have hr : (w.reqs.set (rid w) (R w)).get? r0 = some r := (h1 w) ▸ hr
  rw [Dict.get?_set] at hr
  split at hr
  · injection hr with hr; rw [← hr]; exact hR w h
  · exact h r0 r hr
theorem hw_mod {f : World → World} (h1 : ∀ w, (f w).reqs = w.reqs) (h2 : ∀ w, (f w).log = w.log) : HW B (Step.mod f) := fun w h =>
  ⟨fun rid r hr => h rid r ((h1 w) ▸ hr), [], by simp [Step.mod, h2 w], by simp⟩
theorem hw_setProto (q : Nat) (g : Proto → Proto) : HW B (setProto q g) := hw_mod (fun _ => rfl) (fun _ => rfl)
theorem hw_setEnts (g : List Ent → List Ent) : HW B (setEnts g) := hw_mod (fun _ => rfl) (fun _ => rfl)
theorem hww_setEnts (g : List Ent → List Ent) : HWW B (fun w => w.setEnts g) := hw_setEnts g
theorem hw_callLater (d : Rat) (k : TKind) {c : Nat → Step} (hc : ∀ t, HW B (c t)) : HW B (callLater d k c) :=
  hw_closed.callLater d k (hw_mod (fun _ => rfl) (fun _ => rfl)) hc
theorem hw_newDfd {c : Nat → Step} (hc : ∀ t, HW B (c t)) : HW B (newDfd c) :=
  hw_closed.newDfd (fun _ => hw_mod (fun _ => rfl) (fun _ => rfl)) hc
theorem hw_makeId {c : Nat → Step} (hc : ∀ t, HW B (c t)) : HW B (makeId c) :=
  hw_closed.makeId (fun _ => hw_mod (fun _ => rfl) (fun _ => rfl)) hc
theorem hw_cancelTimer (t : Nat) : HW B (cancelTimer t) := hw_closed.cancelTimer t fun _ => hw_mod (fun _ => rfl) (fun _ => rfl)
theorem hw_fireDfd (d : Nat) (o : Outcome) : HW B (fireDfd d o) :=
  hw_closed.fireDfd d o (hw_mod (fun _ => rfl) (fun _ => rfl)) (hw_emit_other _ nofun)

theorem hw_loopRun (hP : B encodePINGREQ = true) (p : Nat) : HW B (loopRun p) :=
  hw_closed.loopRun
    (hw_closed.ping (hw_closed.doPingRequest (hw_write _ _ hP) fun _ => hw_callLater _ _ fun _ => hw_setProto _ _))
    (fun _ => hw_callLater _ _ fun _ => hw_setProto _ _) (hw_setProto _ _)

theorem hw_connectionLost (p : Nat) (r : Err) : HW B (connectionLost p r) :=
  hw_closed.connectionLost_prims r hw_cancelTimer
    (fun r => hw_putReq (fun _ => r) (fun w => { w.req r with alarm := none }) (fun _ h => h.req r) (fun _ => rfl) (fun _ => rfl))
    (fun _ _ _ => hw_setEnts _) (fun _ => hw_setEnts _) (fun _ => hw_fireDfd _ _) (hw_callLater _ _ fun _ => hw_closed.ok)
    fun _ _ => hw_setProto _ _

section resend
variable (hB : ∀ bs, headOk bs = true → B bs = true)
include hB

theorem Sent.heads {p rid : Nat} {w w' : World} (s : Sent p rid w w') : Heads B w w' := by
  intro h
  have h0 : headOk (w'.req rid).encoded = true := by
    rcases s.bytes with e | ⟨dup, e⟩ | e
    · rw [e]; exact h.req rid
    · rw [e]; exact headOk_patchDup _ dup (h.req rid)
    · rw [e]; exact headOk_clearDup _ (h.req rid)
  refine ⟨fun r R hR => ?_, _, s.log, fun q bs ho => ?_⟩
  · rw [s.reqs] at hR
    split at hR
    · injection hR with hR; rw [← hR]; exact h0
    · exact h r R hR
  · injection List.mem_singleton.mp ho with _ hbs
    rw [hbs]; exact hB _ h0

theorem hw_sent {q rid : Nat} {f : World → World} (hf : ∀ w, Sent q rid w (f w)) : HW B (Step.mod f) := fun w => (hf w).heads hB
theorem hw_refill (q : Nat) : HW B (refill q) :=
  refill_of_sent Heads.refl Heads.trans q (fun w _ => hww_setEnts _ w) fun _ _ _ s => s.heads hB
theorem hw_syncSession (q : Nat) : HW B (syncSession q) :=
  syncSession_of_sent Heads.refl Heads.trans q fun _ _ _ s => s.heads hB

set_option linter.unusedSectionVars false in
theorem hw_newReq (f : World → World) (R : World → Req) (hR : ∀ w, headOk (R w).encoded = true)
    (h1 : ∀ w, (f w).reqs = w.reqs.set w.nextReq (R w)) (h2 : ∀ w, (f w).log = w.log) : HW B (Step.mod f) :=
  hw_putReq (·.nextReq) R (fun w _ => hR w) h1 h2

theorem hw_registerSubUnsub (p : Nat) (s : Bool) (i : Nat) (bs : Bytes) (hbs : headOk bs = true) : HW B (registerSubUnsub p s i bs) :=
  hw_closed.read fun w => hw_newDfd fun _ =>
    hw_closed.seq (hw_putReq (fun _ => w.nextReq) _ (fun _ _ => hbs) (fun _ => rfl) (fun _ => rfl))
      (hw_closed.seq (hw_setEnts _) (hw_closed.seq (hw_sent hB (retrySubUnsubW_sent _ _ _ _)) (hw_emit_other _ nofun)))

end resend
end hw

def ackHead : Bytes → Bool
  | [] => false
  | h :: _ => nib h == 4 || nib h == 5 || nib h == 7
def isConnect : Bytes → Bool
  | [] => false
  | h :: _ => nib h == 1
def isPing (bs : Bytes) : Bool := bs == encodePINGREQ
def isDisconnect (bs : Bytes) : Bool := bs == encodeDISCONNECT
/-- what may go to a transport while received bytes are processed -/
def recvPkt (bs : Bytes) : Bool := clientPkt bs || ackHead bs

theorem not_ack_of_clientPkt {bs : Bytes} (h : clientPkt bs = true) : ackHead bs = false := by
  cases bs with
  | nil => rfl
  | cons a r =>
    simp only [clientPkt, List.isEmpty_cons, Bool.false_or, clientHead, Bool.or_eq_true, beq_iff_eq] at h
    simp only [ackHead]
    rcases h with (((((h | h) | h) | h) | h) | h) | h <;> simp [h]
theorem recvPkt_of_client {bs : Bytes} (h : clientPkt bs = true) : recvPkt bs = true := by simp only [recvPkt, h, Bool.true_or]
theorem recvPkt_of_ack {bs : Bytes} (h : ackHead bs = true) : recvPkt bs = true := by simp only [recvPkt, h, Bool.or_true]

theorem connect_first (f : ConnectF) (bs : Bytes) (h : f.encode = .ok bs) : isConnect bs = true := by
  have : ∃ r, bs = [0x10] ++ r := by
    simp only [ConnectF.encode, bind, Except.bind, pure, Except.pure] at h
    repeat' (split at h)
    all_goals (cases h; try exact ⟨_, by rw [List.append_assoc, List.append_assoc]⟩)
  obtain ⟨r, rfl⟩ := this
  have : isConnect ([0x10] ++ r) = (nib 0x10 == 1) := rfl
  rw [this]; decide

theorem ackHead_of_encodeAck {hdr : Nat} {msgId : Int} {bs : Bytes} (h : encodeAck hdr msgId = .ok bs) (hh : ackHead [hdr] = true) :
    ackHead bs = true := by
  obtain ⟨r, rfl⟩ := ack_head hdr msgId bs h
  exact hh
/-- PUBREL is encoded by `encodeAck` too, but is stored as a request -/
theorem headOk_of_encodeAck {hdr : Nat} {msgId : Int} {bs : Bytes} (h : encodeAck hdr msgId = .ok bs) (hh : reqHead [hdr] = true) :
    headOk bs = true := by
  obtain ⟨r, rfl⟩ := ack_head hdr msgId bs h
  exact hh

theorem hw_processPacket {B : Bytes → Bool} (hB : ∀ bs, headOk bs = true → B bs = true) (hA : ∀ bs, ackHead bs = true → B bs = true)
    (hP : B encodePINGREQ = true) (p : Nat) (pkt : Bytes) : HW B (processPacket p pkt) :=
  hw_closed.processPacket_prims pkt (hw_emit_other _ nofun) (hw_emit_other _ nofun) (fun _ => hw_emit_other _ nofun)
    (fun _ _ _ h hh => hw_write _ _ (hA _ (ackHead_of_encodeAck h (by rcases hh with rfl | rfl | rfl <;> decide))))
    hw_cancelTimer (fun _ _ => hw_fireDfd _ _) (fun _ _ => hw_fireDfd _ _) (fun _ _ _ => hw_setEnts _)
    (fun _ => hw_mod (fun _ => rfl) (fun _ => rfl)) (hw_syncSession hB p) (hw_refill hB p) (hw_loopRun hP p)
    (fun _ => hw_closed.handlePUBREC_enc _ hw_cancelTimer (fun _ => hw_setEnts _)
      (fun _ h nid r hr => hw_putReq (fun _ => nid) r
        (fun w _ => (hr w).2.2 ▸ headOk_of_encodeAck (hdr := 0x62) h (by decide)) (fun _ => rfl) (fun _ => rfl))
      (fun _ _ => hw_setEnts _) fun _ => hw_sent hB (retryReleaseW_sent p _ _))
    fun _ _ => hw_setProto _ _

theorem hw_fireTimer {B : Bytes → Bool} (hB : ∀ bs, headOk bs = true → B bs = true) (hP : B encodePINGREQ = true) (t : Nat) :
    HW B (fireTimer t) :=
  hw_closed.fireTimer t (hw_emit_other _ nofun) (fun _ => hw_mod (fun _ => rfl) (fun _ => rfl)) fun k =>
    hw_closed.runTimer k (fun _ => hw_fireDfd _ _) (fun _ _ => hw_mod (fun _ => rfl) (fun _ => rfl)) (fun _ => hw_emit_other _ nofun)
      (fun _ => hw_setProto _ _) (hw_loopRun hP) (fun _ => hw_setProto _ _)
      (fun q rid => hw_sent hB (retryPublishW_sent q rid _)) (fun q rid => hw_sent hB (retryReleaseW_sent q rid _))
      (fun q rid s => hw_sent hB (retrySubUnsubW_sent q rid _ s)) fun _ _ => hw_emit_other _ nofun

/-- the packets operation `op` may write; a PINGREQ while received bytes are processed: the CONNACK starts the keepalive -/
def Op.pkts : Op → Bytes → Bool
  | .recv _ _ => fun bs => headOk bs || ackHead bs || isPing bs
  | .fire _ => fun bs => headOk bs || isPing bs
  | .connect _ _ => isConnect
  | .disconnect _ => isDisconnect
  | _ => headOk

theorem hw_handler (op : Op) : HW op.pkts op.handler := by
  have hB : ∀ bs, headOk bs = true → headOk bs = true := fun _ h => h
  cases op with
  | build a => exact hw_mod (fun _ => rfl) (fun _ => rfl)
  | jit v => exact hw_mod (fun _ => rfl) (fun _ => rfl)
  | setid v => exact hw_mod (fun _ => rfl) (fun _ => rfl)
  | sethandlers p m => exact hw_setProto _ _
  | connect p a =>
    exact hw_closed.apiConnect a (fun _ => hw_emit_other _ nofun) (hw_setProto _ _) (fun _ h => hw_write _ _ (connect_first _ _ h))
      (hw_setProto _ _) fun _ _ => hw_callLater _ _ fun _ => hw_newDfd fun _ =>
        hw_closed.seq (hw_mod (fun _ => rfl) (fun _ => rfl)) (hw_closed.seq (hw_setProto _ _) (hw_emit_other _ nofun))
  | disconnect p => exact hw_closed.apiDisconnect (hw_write _ _ (beq_self_eq_true _)) (hw_emit_other _ nofun) (hw_emit_other _ nofun)
  | publish p t pl qs r =>
    exact hw_closed.apiPublish_enc t pl qs r (fun _ => hw_emit_other _ nofun) (hw_emit_other _ nofun) (fun _ _ => hw_emit_other _ nofun)
      hw_makeId hw_newDfd fun _ _ _ _ bs q mi hq h => hw_closed.read fun w =>
        hw_closed.seq
          (hw_putReq (fun _ => w.nextReq) _ (fun _ _ => headOk_of_reqHead (publishPy_head t pl q r mi bs h hq)) (fun _ => rfl)
            (fun _ => rfl))
          (hw_closed.seq (hw_setEnts _) (hw_refill hB p))
  | subscribe p a qs =>
    exact hw_closed.apiSubscribe_enc a qs (fun _ => hw_emit_other _ nofun) hw_makeId fun i bs pl h => by
      obtain ⟨r, rfl⟩ := withId_head _ _ _ _ h
      exact hw_registerSubUnsub hB _ _ _ _ (headOk_cons 0x82 r (by decide))
  | unsubscribe p a =>
    exact hw_closed.apiUnsubscribe_enc a (fun _ => hw_emit_other _ nofun) hw_makeId fun i bs pl h => by
      obtain ⟨r, rfl⟩ := withId_head _ _ _ _ h
      exact hw_registerSubUnsub hB _ _ _ _ (headOk_cons 0xA2 r (by decide))
  | setwin p n => exact hw_closed.apiSetWindow n (fun _ _ => hw_setProto _ _) (hw_emit_other _ nofun)
  | settimeout p n => exact hw_closed.apiSetTimeout n (fun _ => hw_setProto _ _) (hw_emit_other _ nofun)
  | setbw p b f => exact hw_closed.apiSetBandwith b f (hw_setProto _ _) (hw_emit_other _ nofun)
  | recv p d =>
    show HW (fun bs => headOk bs || ackHead bs || isPing bs) (dataReceived p d)
    exact hw_closed.dataReceived d
      (hw_processPacket (fun _ h => by simp only [h, Bool.true_or]) (fun _ h => by simp only [h, Bool.or_true, Bool.true_or])
        (by decide) p)
      (hw_setProto _ _) fun _ => hw_setProto _ _
  | lost p r => exact hw_connectionLost p r
  | fire t =>
    show HW (fun bs => headOk bs || isPing bs) (fireTimer t)
    exact hw_fireTimer (fun _ h => by simp only [h, Bool.true_or]) (by decide) t

/-- **what an operation may write** (C06, C18): PUBACK, PUBREC and PUBCOMP go out only while received bytes are processed -/
theorem step_heads (w : World) (h : HeadInv w) (op : Op) :
    HeadInv (step w op) ∧ ∃ l, (step w op).log = w.log ++ l ∧ ∀ q bs, Obs.write q bs ∈ l → op.pkts bs = true :=
  Step.Rel.step (R := Heads op.pkts) (hw_handler op w)
    (fun w' _ h1 => h1.trans (hw_emit_other _ (fun _ _ => by split <;> nofun) w')) h

theorem HeadInv.init (profile : Nat) : HeadInv (World.init profile) := fun rid r h => by simp [World.init, Dict.get?] at h
theorem run_heads (ops : List Op) : ∀ w, HeadInv w → HeadInv (run w ops) := fun w h =>
  run_invariant HeadInv (fun w op h => (step_heads w h op).1) ops w h

/-- the type nibble of a packet (0 for no bytes at all) -/
def ptype : Bytes → Nat
  | [] => 0
  | h :: _ => nib h

def Op.ptypes : Op → List Nat
  | .recv _ _ => [0, 3, 6, 8, 10, 4, 5, 7, 12]
  | .fire _ => [0, 3, 6, 8, 10, 12]
  | .connect _ _ => [1]
  | .disconnect _ => [14]
  | _ => [0, 3, 6, 8, 10]

theorem headOk_ptype {bs : Bytes} (h : headOk bs = true) : ptype bs ∈ [0, 3, 6, 8, 10] := by
  cases bs with
  | nil => exact .head _
  | cons a r =>
    simp only [headOk, List.isEmpty_cons, Bool.false_or, reqHead, Bool.or_eq_true, beq_iff_eq] at h
    rcases h with ((h | h) | h) | h <;> simp [ptype, h]
theorem ackHead_ptype {bs : Bytes} (h : ackHead bs = true) : ptype bs ∈ [4, 5, 7] := by
  cases bs with
  | nil => cases h
  | cons a r =>
    simp only [ackHead, Bool.or_eq_true, beq_iff_eq] at h
    rcases h with (h | h) | h <;> simp [ptype, h]
theorem isConnect_ptype {bs : Bytes} (h : isConnect bs = true) : ptype bs = 1 := by
  cases bs with
  | nil => cases h
  | cons a r => simpa [isConnect, ptype] using h
theorem isPing_ptype {bs : Bytes} (h : isPing bs = true) : ptype bs = 12 := by
  have : bs = encodePINGREQ := by simpa [isPing] using h
  subst this; decide
theorem isDisconnect_ptype {bs : Bytes} (h : isDisconnect bs = true) : ptype bs = 14 := by
  have : bs = encodeDISCONNECT := by simpa [isDisconnect] using h
  subst this; decide

theorem pkts_ptype (op : Op) (bs : Bytes) (h : op.pkts bs = true) : ptype bs ∈ op.ptypes := by
  cases op <;> simp only [Op.pkts, Op.ptypes, Bool.or_eq_true] at h ⊢
  case connect => rw [isConnect_ptype h]; decide
  case disconnect => rw [isDisconnect_ptype h]; decide
  case recv =>
    rcases h with (h | h) | h
    · exact (by decide : [0, 3, 6, 8, 10] ⊆ _) (headOk_ptype h)
    · exact (by decide : [4, 5, 7] ⊆ _) (ackHead_ptype h)
    · rw [isPing_ptype h]; decide
  case fire =>
    rcases h with h | h
    · exact (by decide : [0, 3, 6, 8, 10] ⊆ _) (headOk_ptype h)
    · rw [isPing_ptype h]; decide
  all_goals exact headOk_ptype h

end Mqtt
