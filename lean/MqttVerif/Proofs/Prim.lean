import MqttVerif.Model.Prim
/-
  The three primitive codecs of pdu.py: each encoder in explicit form (`enc16`, `encS`, a fuel-free
  equation for `encodeLength`), the decoder on that form whatever bytes follow, and the round trips.
-/
namespace Mqtt

@[simp] theorem ok_bind {α β} (a : α) (f : α → Except Err β) : (Except.ok a >>= f) = f a := rfl
@[simp] theorem error_bind {α β} (e : Err) (f : α → Except Err β) : (Except.error e >>= f) = .error e := rfl
@[simp] theorem pure_ok {α} (a : α) : (pure a : Except Err α) = .ok a := rfl

theorem WF_nil : Bytes.WF [] :=
  fun _ hx => nomatch hx

theorem WF_cons {a : Nat} {b : Bytes} (ha : a < 256) (hb : b.WF) : Bytes.WF (a :: b) :=
  fun x hx => (List.mem_cons.1 hx).elim (· ▸ ha) (hb x)

theorem WF_append {a b : Bytes} (ha : a.WF) (hb : b.WF) : Bytes.WF (a ++ b) :=
  fun x hx => (List.mem_append.1 hx).elim (ha x) (hb x)

/-! ## UTF-8 text -/

theorem fromUtf8_utf8 (s : String) : fromUtf8? (utf8 s) = some s := by
  have : toByteArray (utf8 s) = s.toByteArray := by
    unfold toByteArray utf8
    simp [Function.comp_def]
  unfold fromUtf8?
  rw [this]
  unfold String.fromUTF8?
  rw [dif_pos s.isValidUTF8]
  rfl

theorem utf8_WF (s : String) : (utf8 s).WF := by
  intro b hb
  unfold utf8 at hb
  simp at hb
  obtain ⟨x, _, rfl⟩ := hb
  exact x.toNat_lt

theorem utf8_length (s : String) : (utf8 s).length = s.utf8ByteSize := by
  unfold utf8
  rw [← String.size_toByteArray]
  cases s.toByteArray with
  | mk d => simp only [List.length_map, Array.length_toList]; rfl

/-! ## bit facts on `Nat` used by the codecs -/

theorem shr8 (n : Nat) : n >>> 8 = n / 256 :=
  Nat.shiftRight_eq_div_pow n 8

theorem and255 (n : Nat) : n &&& 0xFF = n % 256 :=
  Nat.and_two_pow_sub_one_eq_mod n 8

theorem and127 (n : Nat) : n &&& 0x7F = n % 128 :=
  Nat.and_two_pow_sub_one_eq_mod n 7

theorem or128 (d : Nat) (h : d < 128) : d ||| 128 = d + 128 :=
  Nat.or_two_pow_eq_add_of_lt (n := 7) h

theorem and128_small (d : Nat) (h : d < 128) : d &&& 0x80 = 0 := by
  have : ∀ x : Fin 128, x.val &&& 0x80 = 0 := by decide
  exact this ⟨d, h⟩

theorem and128_big (d : Nat) (h : d < 128) : (d + 128) &&& 0x80 = 0x80 := by
  rw [← or128 d h, Nat.and_or_distrib_right, and128_small d h, Nat.and_self, Nat.zero_or]

theorem and127_big (d : Nat) (h : d < 128) : (d + 128) &&& 0x7F = d := by
  rw [and127]
  omega

/-! ## 16-bit integers -/

/-- the two bytes `encode16Int` produces -/
def enc16 (v : Nat) : Bytes := [v >>> 8, v &&& 0xFF]

theorem encode16_ok' (v : Int) (h0 : 0 ≤ v) (h : v < 65536) : encode16Int v = .ok (enc16 v.toNat) :=
  if_pos ⟨h0, h⟩

theorem encode16_ok (v : Nat) (h : v < 65536) : encode16Int (v : Int) = .ok (enc16 v) :=
  encode16_ok' v (by omega) (by omega)

@[simp] theorem enc16_length (v : Nat) : (enc16 v).length = 2 := rfl

theorem enc16_WF (v : Nat) (h : v < 65536) : (enc16 v).WF := by
  refine WF_cons ?_ (WF_cons ?_ WF_nil)
  · rw [shr8]
    omega
  · rw [and255]
    omega

/-- the two bytes are the digits of `v` in base 256, so any `v` is read back; the bound of `encode16Int` only
    keeps the first of them a byte -/
theorem decode16_enc16 (v : Nat) (rest : Bytes) : decode16Int (enc16 v ++ rest) = .ok v := by
  simp only [enc16, List.cons_append, decode16Int, shr8, and255]
  congr 1
  omega

theorem decode16_enc16_nil (v : Nat) : decode16Int (enc16 v) = .ok v :=
  decode16_enc16 v []

/-- for the decoders that slice two bytes off before they read them -/
theorem decode16_take (l : Bytes) : decode16Int (l.take 2) = decode16Int l := by
  match l with
  | [] | [_] | _ :: _ :: _ => rfl

@[simp] theorem enc16_drop (v : Nat) (rest : Bytes) : (enc16 v ++ rest).drop 2 = rest := rfl

theorem decode16_encode16 (v : Nat) (h : v < 65536) (rest : Bytes) :
    ∃ bs, encode16Int (v : Int) = .ok bs ∧ bs.length = 2 ∧ bs.WF ∧ decode16Int (bs ++ rest) = .ok v :=
  ⟨enc16 v, encode16_ok v h, rfl, enc16_WF v h, decode16_enc16 v rest⟩

theorem encode16_decode16 (a b : Nat) (ha : a < 256) (hb : b < 256) :
    encode16Int ((a * 256 + b : Nat) : Int) = .ok [a, b] := by
  rw [encode16_ok _ (by omega), enc16, shr8, and255, Nat.mul_comm a, Nat.mul_add_div (by decide), Nat.mul_add_mod,
    Nat.div_eq_of_lt hb, Nat.mod_eq_of_lt hb]
  rfl

/-! ## remaining length (base-128 varint) -/

theorem encodeLengthF_fuel (f g n : Nat) (hf : n ≤ f) (hg : n ≤ g) : encodeLengthF f n = encodeLengthF g n := by
  induction f generalizing g n with
  | zero =>
    obtain rfl : n = 0 := by omega
    cases g <;> rfl
  | succ f ih =>
    cases g with
    | zero =>
      obtain rfl : n = 0 := by omega
      rfl
    | succ g =>
      simp only [encodeLengthF]
      split
      · rw [ih g (n / 128) (by omega) (by omega)]
      · rfl

theorem encodeLength_eq (n : Nat) :
    encodeLength n = if n < 128 then [n] else (n % 128 + 128) :: encodeLength (n / 128) := by
  unfold encodeLength
  cases n with
  | zero => rfl
  | succ k =>
    rw [encodeLengthF]
    by_cases h : k + 1 < 128
    · rw [if_neg (by omega), if_pos h, Nat.mod_eq_of_lt h]
    · rw [if_pos (by omega), if_neg h, or128 _ (Nat.mod_lt _ (by decide)),
        encodeLengthF_fuel k ((k + 1) / 128) _ (by omega) (Nat.le_refl _)]

theorem encodeLength_WF (n : Nat) : (encodeLength n).WF := by
  induction n using Nat.strongRecOn with
  | ind n ih =>
    rw [encodeLength_eq]
    by_cases h : n < 128
    · rw [if_pos h]
      exact WF_cons (by omega) WF_nil
    · rw [if_neg h]
      exact WF_cons (by omega) (ih (n / 128) (by omega))

theorem decodeLengthAux_encodeLength (n value mult : Nat) (rest : Bytes) :
    decodeLengthAux value mult (encodeLength n ++ rest) = value + n * mult := by
  induction n using Nat.strongRecOn generalizing value mult with
  | ind n ih =>
    rw [encodeLength_eq]
    by_cases h : n < 128
    · simp [h, decodeLengthAux, and128_small n h, and127, Nat.mod_eq_of_lt h]
    · have hd : n % 128 < 128 := Nat.mod_lt _ (by decide)
      simp only [h, List.cons_append, decodeLengthAux, and128_big _ hd, and127_big _ hd, bne_self_eq_false,
        Bool.false_eq_true, ↓reduceIte]
      rw [ih (n / 128) (by omega), Nat.mul_comm mult, ← Nat.mul_assoc, Nat.add_assoc, ← Nat.add_mul,
        Nat.mod_add_div']

theorem decodeLength_encodeLength (n : Nat) (rest : Bytes) :
    decodeLength (encodeLength n ++ rest) = n := by
  unfold decodeLength
  rw [decodeLengthAux_encodeLength]
  omega

theorem encodeLength_length_le (k n : Nat) (h : n < 128 ^ (k + 1)) : (encodeLength n).length ≤ k + 1 := by
  induction k generalizing n with
  | zero =>
    rw [encodeLength_eq, if_pos (by omega)]
    exact Nat.le_refl _
  | succ k ih =>
    rw [encodeLength_eq]
    by_cases h1 : n < 128
    · rw [if_pos h1]
      exact Nat.le_add_left 1 (k + 1)
    · rw [if_neg h1]
      exact Nat.succ_le_succ (ih (n / 128) ((Nat.div_lt_iff_lt_mul (by decide)).2 h))

/-- 268435455 = 128 ^ 4 - 1 is the largest remaining length MQTT allows -/
theorem encodeLength_length (n : Nat) (h : n ≤ 268435455) :
    1 ≤ (encodeLength n).length ∧ (encodeLength n).length ≤ 4 := by
  constructor
  · rw [encodeLength_eq]
    split <;> simp
  · exact encodeLength_length_le 3 n (by omega)

example : encodeLength 0 = [0] ∧ encodeLength 127 = [127] ∧ encodeLength 128 = [128, 1] ∧
    encodeLength 16384 = [128, 128, 1] ∧ encodeLength 268435455 = [255, 255, 255, 127] := by decide

/-! ## length-prefixed strings -/

/-- the bytes `encodeString` produces -/
def encS (s : String) : Bytes := ((utf8 s).length >>> 8) :: ((utf8 s).length &&& 0xFF) :: utf8 s

theorem encS_eq (s : String) : encS s = enc16 s.utf8ByteSize ++ utf8 s := by
  rw [← utf8_length]
  rfl

theorem encodeString_eq (s : String) :
    encodeString s = if 65535 < s.utf8ByteSize then .error .value else .ok (encS s) := by
  rw [← utf8_length]
  rfl

theorem encodeString_ok (s : String) (h : s.utf8ByteSize ≤ 65535) : encodeString s = .ok (encS s) := by
  rw [encodeString_eq, if_neg (Nat.not_lt.2 h)]

theorem encodeString_too_long (s : String) (h : 65535 < s.utf8ByteSize) :
    encodeString s = .error .value := by
  rw [encodeString_eq, if_pos h]

@[simp] theorem encS_length (s : String) : (encS s).length = 2 + s.utf8ByteSize := by
  simp [encS_eq, utf8_length]

theorem encS_WF (s : String) (h : s.utf8ByteSize ≤ 65535) : (encS s).WF := by
  rw [encS_eq]
  exact WF_append (enc16_WF _ (by omega)) (utf8_WF s)

/-- the length prefix read as an integer, as PUBLISH.decode and UNSUBSCRIBE.decode do -/
theorem decode16_encS (s : String) (rest : Bytes) : decode16Int (encS s ++ rest) = .ok s.utf8ByteSize := by
  rw [encS_eq, List.append_assoc, decode16_enc16]

theorem encS_body (s : String) (rest : Bytes) : ((encS s ++ rest).drop 2).take s.utf8ByteSize = utf8 s := by
  rw [encS_eq, List.append_assoc, enc16_drop, ← utf8_length]
  exact List.take_left

theorem encS_rest (s : String) (rest : Bytes) : (encS s ++ rest).drop (2 + s.utf8ByteSize) = rest :=
  List.drop_left' (encS_length s)

theorem decodeString_encS (s : String) (rest : Bytes) : decodeString (encS s ++ rest) = .ok (s, rest) := by
  have h16 := decode16_encS s rest
  have hb := encS_body s rest
  simp only [encS, List.cons_append, decode16Int, Except.ok.injEq, List.drop_succ_cons, List.drop_zero] at h16 hb
  simp only [encS, List.cons_append, decodeString, h16]
  have : ¬ (utf8 s ++ rest).length < s.utf8ByteSize := by
    simp [utf8_length]
  rw [if_neg this, hb, fromUtf8_utf8, ← utf8_length, List.drop_left]

theorem decodeString_encodeString (s : String) (h : s.utf8ByteSize ≤ 65535) (rest : Bytes) :
    ∃ bs, encodeString s = .ok bs ∧ bs.WF ∧ bs.length = 2 + s.utf8ByteSize ∧
      decodeString (bs ++ rest) = .ok (s, rest) :=
  ⟨encS s, encodeString_ok s h, encS_WF s h, encS_length s, decodeString_encS s rest⟩

end Mqtt
