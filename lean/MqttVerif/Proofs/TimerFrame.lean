import MqttVerif.Proofs.ReqFrame
import MqttVerif.Proofs.StepInv
import MqttVerif.Proofs.Timers
/-
  C19, the object layer, timers.  `step_timers_keep` (Timers.lean) gives the due time and the callback.  That the timer is still
  pending is read off the invariant after the step: its owner -- the request object or the protocol object of address `A` that refers
  to it -- has not been touched (`other_step_requests`, `step_protos`), and what an owner refers to is pending.
-/
namespace Mqtt

theorem timer_ext {a b : Timer} (h1 : a.due = b.due) (h2 : a.kind = b.kind) (h3 : a.status = b.status) : a = b := by
  cases a; cases b; simp_all

/-- **retransmission and keepalive timers**: in a reachable state, through any operation run by a protocol of another address, a pending
    retry timer of a request of address `A` and the pending keepalive timers (PINGREQ loop, PINGRESP deadline) of a protocol of address `A`
    stay exactly as they are: same due time, same callback, still pending -/
theorem other_step_timers {w : World} (hw : WInv w) {op : Op} (henv : Env w op) {q A : Nat} (hop : op.proto? w = some q) (hq : w.paddr q ≠ A)
    (t p : Nat) (hp : w.paddr p = A) (k : TKind) (hk : (∃ rid, k = .retry p rid) ∨ k = .pingAlarm p ∨ k = .pingLoop p)
    (hpend : Pending w t k) : (step w op).timers.get? t = w.timers.get? t := by
  have hw' : WInv (step w op) := step_inv hw op henv
  have keep := step_timers_keep w (fun t tm h => hw.timerFresh t tm h) op
  obtain ⟨tm, ht, hst, hkind⟩ := hpend
  obtain ⟨tm', ht', hd, hk'⟩ := keep.keep t tm ht
  have hpq : p ≠ q := fun h => hq (h ▸ hp)
  have hproto : (step w op).protos.get? p = w.protos.get? p := step_protos w op p (by rw [hop]; exact hpq)
  suffices hs : tm'.status = .pending by
    rw [ht', ht, timer_ext hd hk' (hs.trans hst.symm)]
  have fin : ∀ k', Pending (step w op) t k' → tm'.status = .pending := by
    rintro k' ⟨tm2, h2, hs2, _⟩
    rw [ht'] at h2; injection h2 with h2; rw [h2]; exact hs2
  rcases hk with ⟨rid, rfl⟩ | rfl | rfl
  · obtain ⟨e, he, hrid, hal⟩ := hw.noStale t p rid ⟨tm, ht, hst, hkind⟩
    obtain ⟨_, p', pr', hpend', hpp', hpa'⟩ := hw.alarm e he t (by rw [hrid]; exact hal)
    have hkk := pending_kind hpend' ⟨tm, ht, hst, hkind⟩
    injection hkk with hpp2 _
    subst hpp2
    have hea : e.addr = A := by
      rw [← hpa', ← hp]; simp [World.paddr, getD_of_get? hpp']
    have hsame := Mqtt.other_step hop hq
    have he' : e ∈ (step w op).ents := by
      have : e ∈ w.ents.filter (onA A) := List.mem_filter.mpr ⟨he, by simp [onA, hea]⟩
      rw [← hsame.1] at this
      exact (List.mem_filter.mp this).1
    have hreq : (step w op).req e.rid = w.req e.rid := by
      simp only [World.req, Mqtt.other_step_requests hw hop hq e he hea]
    obtain ⟨_, p2, pr2, hpend2, _, _⟩ := hw'.alarm e he' t (by rw [hreq, hrid]; exact hal)
    exact fin _ hpend2
  · obtain ⟨pr, hpr, hpa⟩ := hw.pingAlarmOwned t p ⟨tm, ht, hst, hkind⟩
    exact fin _ (hw'.pingAlarm p pr t (by rw [hproto]; exact hpr) hpa)
  · obtain ⟨pr, l, hpr, hpt, hlc⟩ := hw.pingLoopOwned t p ⟨tm, ht, hst, hkind⟩
    exact fin _ ((hw'.pingTimer p pr l (by rw [hproto]; exact hpr) hpt).2.2.2 t hlc)

end Mqtt
