import MqttVerif.Proofs.Sent
/-
  C19: the six per-address dictionaries (`queuePublishTx`, `windowPublish`, `windowPubRelease`, `windowSubscribe`,
  `windowUnsubscribe` -- the entry list `ents` -- and `windowPubRx` -- the list `rx`) are only ever accessed under the address
  of the protocol that runs the handler.

  `w.only A` is the world in which every entry of an address other than `A` has been deleted from the six dictionaries.
  `Keyed A B p s` says what a handler `s`, run by a protocol `p` that serves address `B`, does as seen from address `A`:
    * if `B = A` it cannot tell `w` from `w.only A`: it returns the same result, and the world it leaves is `(s w).1.only A`
      (reads and writes go through `[self.addr]`);
    * if `B ≠ A` it leaves the `A`-part of the six dictionaries as it was.
  The two cases are proved together, in one walk over the handlers; the walk is pointwise (`KeyedAt`) because a handler goes
  on with what it has read, and what it has read must be shown to be the same in `w.only A`.  Neither case needs the
  invariant or `Env`.  The one exception is `makeId`, which looks at the identifiers of ALL addresses (the shared resource
  the property names): for the three calls that draw an identifier the first case is conditional on the draw being the same
  (`IdAgree`).  `Free` is for the operations that no protocol runs.
-/
namespace Mqtt

/-! ### filtering the entry lists by address -/

def onA (A : Nat) (e : Ent) : Bool := decide (e.addr = A)
def rxOnA (A : Nat) (e : RxEnt) : Bool := decide (e.addr = A)

def World.only (A : Nat) (w : World) : World :=
  { w with ents := w.ents.filter (onA A), rx := w.rx.filter (rxOnA A) }

theorem filter_update {α : Type} (P : α → Bool) (q : α → Prop) [DecidablePred q] (c : Prop) [Decidable c] (g : List α → List α)
    (n : List α) (g_nil : g [] = n) (g_cons : ∀ e t, g (e :: t) = if q e then n ++ t else e :: g t)
    (hq : ∀ e, q e → (P e = true ↔ c)) (hn : ∀ e ∈ n, (P e = true ↔ c)) (es : List α) :
    (g es).filter P = if c then g (es.filter P) else es.filter P := by
  have fn : n.filter P = if c then n else [] := by
    by_cases hc : c
    · rw [if_pos hc, List.filter_eq_self]
      exact fun e he => (hn e he).mpr hc
    · rw [if_neg hc, List.filter_eq_nil_iff]
      exact fun e he h => hc ((hn e he).mp h)
  induction es with
  | nil =>
    rw [g_nil, fn]
    split
    · exact g_nil.symm
    · rfl
  | cons e t ih =>
    rw [g_cons]
    by_cases hqe : q e
    · rw [if_pos hqe, List.filter_append, fn]
      by_cases hc : c
      · rw [if_pos hc, if_pos hc, List.filter_cons_of_pos ((hq e hqe).mpr hc), g_cons, if_pos hqe]
      · rw [if_neg hc, if_neg hc, List.filter_cons_of_neg fun h => hc ((hq e hqe).mp h)]
        rfl
    · rw [if_neg hqe]
      by_cases hP : P e = true
      · rw [List.filter_cons_of_pos hP, List.filter_cons_of_pos hP, ih, g_cons, if_neg hqe]
        split <;> rfl
      · rw [List.filter_cons_of_neg hP, List.filter_cons_of_neg hP, ih]

namespace Ents
variable (A : Nat)

theorem lookup_filter (es : List Ent) (b : Box) (k : Nat) : lookup (es.filter (onA A)) A b k = lookup es A b k := by
  induction es with
  | nil => rfl
  | cons e r ih =>
    by_cases h : e.addr = A <;> by_cases hb : e.box = b <;> by_cases hk : e.key = k <;> simp_all [onA, lookup]

theorem items_filter (es : List Ent) (b : Box) : items (es.filter (onA A)) A b = items es A b := by
  induction es with
  | nil => rfl
  | cons e r ih => by_cases h : e.addr = A <;> by_cases hb : e.box = b <;> simp_all [onA, items]

theorem count_filter (es : List Ent) (b : Box) : count (es.filter (onA A)) A b = count es A b := by
  simp only [count, items_filter]

theorem insert_filter (es : List Ent) (a : Nat) (b : Box) (k rid : Nat) :
    (insert es a b k rid).filter (onA A) = if a = A then insert (es.filter (onA A)) a b k rid else es.filter (onA A) :=
  filter_update (onA A) (fun e => e.addr = a ∧ e.box = b ∧ e.key = k) (a = A) (insert · a b k rid) [⟨a, b, k, rid⟩]
    rfl (fun _ _ => rfl) (fun e h => by simp [onA, h.1]) (by simp [onA]) es

theorem remove_filter (es : List Ent) (a : Nat) (b : Box) (k : Nat) :
    (remove es a b k).filter (onA A) = if a = A then remove (es.filter (onA A)) a b k else es.filter (onA A) :=
  filter_update (onA A) (fun e => e.addr = a ∧ e.box = b ∧ e.key = k) (a = A) (remove · a b k) []
    rfl (fun _ _ => rfl) (fun e h => by simp [onA, h.1]) nofun es

theorem dropFirst_filter (es : List Ent) (a : Nat) (b : Box) :
    (dropFirst es a b).filter (onA A) = if a = A then dropFirst (es.filter (onA A)) a b else es.filter (onA A) :=
  filter_update (onA A) (fun e => e.addr = a ∧ e.box = b) (a = A) (dropFirst · a b) []
    rfl (fun _ _ => rfl) (fun e h => by simp [onA, h.1]) nofun es

theorem append_filter (es : List Ent) (a : Nat) (b : Box) (k rid : Nat) :
    (es ++ [(⟨a, b, k, rid⟩ : Ent)]).filter (onA A) = if a = A then es.filter (onA A) ++ [⟨a, b, k, rid⟩] else es.filter (onA A) := by
  by_cases ha : a = A <;> simp [List.filter_append, onA, ha]

theorem items_addr {es : List Ent} {a : Nat} {b : Box} {e : Ent} (h : e ∈ items es a b) : e.addr = a := (mem_items.mp h).2.1
theorem items_box {es : List Ent} {a : Nat} {b : Box} {e : Ent} (h : e ∈ items es a b) : e.box = b := (mem_items.mp h).2.2

end Ents

namespace Rx
variable (A : Nat)

theorem lookup_filter (es : List RxEnt) (k : Nat) : lookup (es.filter (rxOnA A)) A k = lookup es A k := by
  induction es with
  | nil => rfl
  | cons e r ih => by_cases h : e.addr = A <;> by_cases hk : e.key = k <;> simp_all [rxOnA, lookup]

theorem insert_filter (es : List RxEnt) (a k : Nat) (m : RxMsg) :
    (insert es a k m).filter (rxOnA A) = if a = A then insert (es.filter (rxOnA A)) a k m else es.filter (rxOnA A) :=
  filter_update (rxOnA A) (fun e => e.addr = a ∧ e.key = k) (a = A) (insert · a k m) [⟨a, k, m⟩]
    rfl (fun _ _ => rfl) (fun e h => by simp [rxOnA, h.1]) (by simp [rxOnA]) es

theorem remove_filter (es : List RxEnt) (a k : Nat) :
    (remove es a k).filter (rxOnA A) = if a = A then remove (es.filter (rxOnA A)) a k else es.filter (rxOnA A) :=
  filter_update (rxOnA A) (fun e => e.addr = a ∧ e.key = k) (a = A) (remove · a k) []
    rfl (fun _ _ => rfl) (fun e h => by simp [rxOnA, h.1]) nofun es

end Rx

section
variable (A : Nat) (w : World)
@[simp] theorem only_ents : (w.only A).ents = w.ents.filter (onA A) := rfl
@[simp] theorem only_rx : (w.only A).rx = w.rx.filter (rxOnA A) := rfl
@[simp] theorem only_proto (p : Nat) : (w.only A).proto p = w.proto p := rfl
@[simp] theorem only_paddr (p : Nat) : (w.only A).paddr p = w.paddr p := rfl
@[simp] theorem only_req (r : Nat) : (w.only A).req r = w.req r := rfl
@[simp] theorem only_log : (w.only A).log = w.log := rfl
@[simp] theorem only_jitter : (w.only A).jitter = w.jitter := rfl
theorem only_setReq (r : Nat) (g : Req → Req) : (w.only A).setReq r g = (w.setReq r g).only A := rfl
theorem only_emit (o : Obs) : (w.only A).emit o = (w.emit o).only A := rfl
theorem only_callLater1 (d : Rat) (k : TKind) : ((w.only A).callLater d k).1 = ((w.callLater d k).1).only A := rfl
theorem only_callLater2 (d : Rat) (k : TKind) : ((w.only A).callLater d k).2 = (w.callLater d k).2 := rfl
@[simp] theorem only_only : (w.only A).only A = w.only A := by
  simp only [World.only, List.filter_filter, Bool.and_self]
end

/-- `s` moves no protocol object to another address (only `buildProtocol` creates one); `KeyedAt` has this as its first conjunct -/
def KA (s : Step) : Prop := ∀ w q, (s w).1.paddr q = w.paddr q

def SameA (A : Nat) (w w' : World) : Prop := w'.ents.filter (onA A) = w.ents.filter (onA A) ∧ w'.rx.filter (rxOnA A) = w.rx.filter (rxOnA A)

theorem SameA.refl (A : Nat) (w : World) : SameA A w w := ⟨rfl, rfl⟩
theorem SameA.trans {A : Nat} {a b c : World} (x : SameA A a b) (y : SameA A b c) : SameA A a c := ⟨y.1.trans x.1, y.2.trans x.2⟩

/-! ### steps that touch no per-address dictionary -/

/-- `f` neither reads nor writes the six dictionaries: it does the same whatever they hold -/
def Blind (f : World → World) : Prop := ∀ w es rx, f { w with ents := es, rx := rx } = { f w with ents := es, rx := rx }

theorem Blind.ents {f : World → World} (h : Blind f) (w : World) : (f w).ents = w.ents := by
  have e := congrArg World.ents (h w w.ents w.rx)
  exact e
theorem Blind.rx {f : World → World} (h : Blind f) (w : World) : (f w).rx = w.rx := by
  have e := congrArg World.rx (h w w.ents w.rx)
  exact e
theorem Blind.only {f : World → World} (h : Blind f) (A : Nat) (w : World) : f (w.only A) = (f w).only A := by
  rw [World.only, World.only, h.ents, h.rx]
  exact h w _ _

def Free (s : Step) : Prop := ∀ A w, s (World.only A w) = (World.only A (s w).1, (s w).2) ∧ SameA A w (s w).1

theorem free_ok : Free Step.ok := fun A w => ⟨rfl, SameA.refl A w⟩
theorem free_raise (e : Err) : Free (Step.raise e) := fun A w => ⟨rfl, SameA.refl A w⟩
theorem free_seq {a b : Step} (ha : Free a) (hb : Free b) : Free (a ;; b) := by
  intro A w
  obtain ⟨a1, a2⟩ := ha A w
  simp only [Step.seq]
  rw [a1]
  rcases hw : a w with ⟨w1, _ | e⟩
  · rw [hw] at a2
    obtain ⟨b1, b2⟩ := hb A w1
    exact ⟨b1, a2.trans b2⟩
  · rw [hw] at a2
    exact ⟨rfl, a2⟩
theorem free_readAt {f : World → Step} {A : Nat} {w : World} (h1 : f (World.only A w) = f w) (h2 : Free (f w)) :
    Step.read f (World.only A w) = (World.only A (Step.read f w).1, (Step.read f w).2) ∧ SameA A w (Step.read f w).1 := by
  show f (World.only A w) (World.only A w) = _ ∧ _
  rw [h1]
  exact h2 A w
theorem free_read {f : World → Step} (h1 : ∀ A w, f (World.only A w) = f w) (h2 : ∀ w, Free (f w)) : Free (Step.read f) :=
  fun A w => free_readAt (h1 A w) (h2 w)
theorem free_mod {f : World → World} (h : Blind f) : Free (Step.mod f) :=
  fun A w => ⟨congrArg (·, none) (h.only A w), by rw [SameA, Step.mod, h.ents, h.rx]; exact ⟨rfl, rfl⟩⟩
theorem free_emit (o : Obs) : Free (emit o) := free_mod fun _ _ _ => rfl
theorem free_fireDfd (d : Nat) (o : Outcome) : Free (fireDfd d o) := by
  refine free_read (fun _ _ => rfl) fun w => ?_
  split
  · exact free_raise _
  · exact free_seq (free_mod fun _ _ _ => rfl) (free_emit _)

theorem free_runConnack (cr : Nat) : Free (runTimer (.connack cr)) := by
  unfold runTimer
  refine free_read (fun _ _ => rfl) fun w => ?_
  split
  · exact free_raise _
  · refine free_seq ?_ (free_seq (free_mod fun _ _ _ => rfl) (free_emit _))
    split
    · exact free_raise _
    · exact free_fireDfd _ _

/-! ### `Keyed`: a handler goes through `[self.addr]` only -/

/-- the first conjunct -- no protocol moves to another address -- is what carries `w.paddr p = B` through a `;;` -/
def KeyedAt (A B p : Nat) (s : Step) (w : World) : Prop :=
  w.paddr p = B → (∀ q, (s w).1.paddr q = w.paddr q) ∧
    (B = A → s (w.only A) = ((s w).1.only A, (s w).2)) ∧ (B ≠ A → SameA A w (s w).1)

def Keyed (A B p : Nat) (s : Step) : Prop := ∀ w, KeyedAt A B p s w

section keyed
variable {A B p : Nat}

theorem keyed_ok : Keyed A B p Step.ok := fun w _ => ⟨fun _ => rfl, fun _ => rfl, fun _ => SameA.refl A w⟩
theorem keyed_raise (e : Err) : Keyed A B p (Step.raise e) := fun w _ => ⟨fun _ => rfl, fun _ => rfl, fun _ => SameA.refl A w⟩

theorem KeyedAt.seq {a b : Step} {w : World} (ha : KeyedAt A B p a w) (hb : KeyedAt A B p b (a w).1) : KeyedAt A B p (a ;; b) w := by
  intro hp
  obtain ⟨ha1, ha2, ha3⟩ := ha hp
  obtain ⟨hb1, hb2, hb3⟩ := hb ((ha1 p).trans hp)
  simp only [Step.seq]
  rcases hw : a w with ⟨w1, _ | e⟩
  · rw [hw] at ha1 ha2 ha3 hb1 hb2 hb3
    refine ⟨fun q => (hb1 q).trans (ha1 q), fun h => ?_, fun h => (ha3 h).trans (hb3 h)⟩
    rw [ha2 h]
    exact hb2 h
  · rw [hw] at ha1 ha2 ha3
    refine ⟨ha1, fun h => ?_, ha3⟩
    rw [ha2 h]

theorem Keyed.seq {a b : Step} (ha : Keyed A B p a) (hb : Keyed A B p b) : Keyed A B p (a ;; b) := fun w => (ha w).seq (hb _)

theorem Keyed.attempt {a b d : Step} (ha : Keyed A B p a) (hb : Keyed A B p b) (hd : Keyed A B p d) :
    Keyed A B p (fun w => match a w with | (w', none) => b w' | (w', some _) => d w') := by
  intro w hp
  obtain ⟨ha1, ha2, ha3⟩ := ha w hp
  simp only []
  rcases hw : a w with ⟨w1, _ | e⟩
  · rw [hw] at ha1 ha2 ha3
    obtain ⟨hb1, hb2, hb3⟩ := hb w1 ((ha1 p).trans hp)
    refine ⟨fun q => (hb1 q).trans (ha1 q), fun h => ?_, fun h => (ha3 h).trans (hb3 h)⟩
    rw [ha2 h]
    exact hb2 h
  · rw [hw] at ha1 ha2 ha3
    obtain ⟨hd1, hd2, hd3⟩ := hd w1 ((ha1 p).trans hp)
    refine ⟨fun q => (hd1 q).trans (ha1 q), fun h => ?_, fun h => (ha3 h).trans (hd3 h)⟩
    rw [ha2 h]
    exact hd2 h

/-- `h1`: what `f` reads has the same value in `w.only A`, because it goes through `[A]`; the default is for a read that
    does not look at the six dictionaries at all -/
theorem KeyedAt.read {f : World → Step} {w : World} (h2 : KeyedAt A B p (f w) w)
    (h1 : w.paddr p = A → f (w.only A) = f w := by intro _; rfl) : KeyedAt A B p (Step.read f) w := by
  intro hp
  obtain ⟨k1, k2, k3⟩ := h2 hp
  refine ⟨k1, fun h => ?_, k3⟩
  show f (w.only A) (w.only A) = _
  rw [h1 (hp.trans h)]
  exact k2 h

theorem Keyed.read {f : World → Step} (h2 : ∀ w, w.paddr p = B → Keyed A B p (f w))
    (h1 : ∀ w, w.paddr p = A → f (w.only A) = f w := by intro _ _; rfl) : Keyed A B p (Step.read f) :=
  fun w hp => KeyedAt.read (h2 w hp w) (h1 w) hp

theorem Keyed.mod {f : World → World} (h1 : ∀ w q, (f w).paddr q = w.paddr q)
    (h2 : B = A → ∀ w, w.paddr p = B → f (w.only A) = (f w).only A) (h3 : B ≠ A → ∀ w, w.paddr p = B → SameA A w (f w)) :
    Keyed A B p (Step.mod f) :=
  fun w hp => ⟨h1 w, fun h => congrArg (·, none) (h2 h w hp), fun h => h3 h w hp⟩

/-- the defaults: `f` is a record update that mentions neither `protos` nor the two lists -/
theorem keyed_blind {f : World → World} (h1 : ∀ w q, (f w).paddr q = w.paddr q := by intro _ _; rfl)
    (h : Blind f := by intro _ _ _; rfl) : Keyed A B p (Step.mod f) :=
  fun w _ => ⟨h1 w, fun _ => (free_mod h A w).1, fun _ => (free_mod h A w).2⟩

theorem paddr_setProto (w : World) (q : Nat) (g : Proto → Proto) (hg : ∀ pr, (g pr).addr = pr.addr) (q' : Nat) :
    ({ w with protos := w.protos.set q (g (w.proto q)) } : World).paddr q' = w.paddr q' := by
  simp only [World.paddr, World.proto, Dict.get?_set]
  split
  · rename_i h; subst h; simp [hg]
  · rfl

theorem keyed_setProto (q : Nat) (g : Proto → Proto) (hg : ∀ pr, (g pr).addr = pr.addr := by intro _; rfl) :
    Keyed A B p (setProto q g) :=
  keyed_blind fun w q' => paddr_setProto w q g hg q'
theorem keyed_emit (o : Obs) : Keyed A B p (emit o) := keyed_blind

theorem keyed_setEnts {a : Nat} (ha : a = B) {g : List Ent → List Ent}
    (hg : ∀ es, (g es).filter (onA A) = if a = A then g (es.filter (onA A)) else es.filter (onA A)) : Keyed A B p (setEnts g) :=
  Keyed.mod (fun _ _ => rfl) (fun h w _ => by simp only [World.setEnts, World.only, hg, if_pos (ha.trans h)])
    fun h w _ => ⟨(hg w.ents).trans (if_neg (ha ▸ h)), rfl⟩

theorem keyed_remove {a : Nat} (h : a = B) (b : Box) (k : Nat) : Keyed A B p (setEnts fun es => Ents.remove es a b k) :=
  keyed_setEnts h fun es => Ents.remove_filter A es a b k
theorem keyed_insert {a : Nat} (h : a = B) (b : Box) (k rid : Nat) : Keyed A B p (setEnts fun es => Ents.insert es a b k rid) :=
  keyed_setEnts h fun es => Ents.insert_filter A es a b k rid

theorem keyed_setRx (g : List RxEnt → Nat → List RxEnt)
    (hg : ∀ es a, (g es a).filter (rxOnA A) = if a = A then g (es.filter (rxOnA A)) a else es.filter (rxOnA A)) :
    Keyed A B p (Step.mod fun w => { w with rx := g w.rx (w.paddr p) }) := by
  refine Keyed.mod (fun _ _ => rfl) (fun h w hw => ?_) fun h w hw => ⟨rfl, (hg w.rx _).trans (if_neg (hw ▸ h))⟩
  show ({ (w.only A) with rx := g (w.rx.filter (rxOnA A)) (w.paddr p) } : World) = _
  rw [World.only, World.only, hg, if_pos (hw.trans h)]

theorem keyed_callLater (d : Rat) (k : TKind) {c : Nat → Step} (hc : ∀ t, Keyed A B p (c t)) : Keyed A B p (callLater d k c) :=
  Keyed.read fun _ _ => Keyed.seq keyed_blind (hc _)
theorem keyed_newDfd {c : Nat → Step} (hc : ∀ t, Keyed A B p (c t)) : Keyed A B p (newDfd c) :=
  Keyed.read fun _ _ => Keyed.seq keyed_blind (hc _)
theorem keyed_cancelTimer (t : Nat) : Keyed A B p (cancelTimer t) := by
  refine Keyed.read fun w _ => ?_
  split
  · exact keyed_raise _
  · split
    · exact keyed_blind
    · exact keyed_raise _
    · exact keyed_raise _
theorem keyed_cancelAlarm (a : Option Nat) : Keyed A B p (cancelAlarm a) := by
  cases a with
  | none => exact keyed_raise _
  | some t => exact keyed_cancelTimer t
theorem keyed_fireDfd (d : Nat) (o : Outcome) : Keyed A B p (fireDfd d o) := by
  refine Keyed.read fun w _ => ?_
  split
  · exact keyed_raise _
  · exact Keyed.seq keyed_blind (keyed_emit _)
theorem keyed_fireReqDfd (d : Option Nat) (o : Outcome) : Keyed A B p (fireReqDfd d o) := by
  cases d with
  | none => exact keyed_raise _
  | some d => exact keyed_fireDfd d o
theorem keyed_forEach {α : Type} (l : List α) {f : α → Step} (hf : ∀ a ∈ l, Keyed A B p (f a)) : Keyed A B p (forEach l f) := by
  induction l with
  | nil => exact keyed_ok
  | cons a r ih => exact (hf a List.mem_cons_self).seq (ih fun x hx => hf x (List.mem_cons_of_mem a hx))
theorem keyed_deliver (q : Nat) (m : RxMsg) : Keyed A B p (deliver q m) := by
  refine Keyed.read fun w _ => ?_
  split
  · exact keyed_emit _
  · exact keyed_ok

theorem KeyedAt.makeId {k : Nat → Step} {w : World} (hid : B = A → scanId (w.only A) 65535 w.nextId = scanId w 65535 w.nextId)
    (hk : KeyedAt A B p (k (scanId w 65535 w.nextId)) { w with nextId := scanId w 65535 w.nextId, idAllocs := w.idAllocs + 1 }) :
    KeyedAt A B p (Mqtt.makeId k) w := by
  intro hp
  obtain ⟨k1, k2, k3⟩ := hk hp
  refine ⟨k1, fun h => ?_, k3⟩
  have e : Mqtt.makeId k (w.only A) = k (scanId (w.only A) 65535 w.nextId)
      (World.only A { w with nextId := scanId (w.only A) 65535 w.nextId, idAllocs := w.idAllocs + 1 }) := rfl
  rw [e, hid h]
  exact k2 h

/-! ### the transmissions and the two loops built from them -/

theorem Sent.paddr {p rid : Nat} {w w' : World} (h : Sent p rid w w') (q : Nat) : w'.paddr q = w.paddr q := by
  rw [World.paddr, World.paddr, World.proto, World.proto, h.protos]
theorem Sent.sameA {p rid : Nat} {w w' : World} (h : Sent p rid w w') (A : Nat) : SameA A w w' := by
  rw [SameA, h.ents, h.rx]
  exact ⟨rfl, rfl⟩

theorem keyed_sent {f : World → World} {q rid : Nat} (hs : ∀ w, Sent q rid w (f w)) (ho : ∀ w, w.paddr p = A → f (w.only A) = (f w).only A) :
    Keyed A B p (Step.mod f) :=
  Keyed.mod (fun w => (hs w).paddr) (fun h w hw => ho w (hw.trans h)) fun _ w _ => (hs w).sameA A

theorem retryPublishW_only (A p rid : Nat) (dup : Bool) (w : World) :
    retryPublishW p rid dup (w.only A) = (retryPublishW p rid dup w).only A := by
  simp only [retryPublishW, only_setReq, only_req, only_jitter]
  rw [← only_emit, apply_ite (World.only A)]
  rfl
theorem retryReleaseW_only (A p rid : Nat) (dup : Bool) (w : World) :
    retryReleaseW p rid dup (w.only A) = (retryReleaseW p rid dup w).only A := by
  unfold retryReleaseW
  rw [only_proto, ← apply_ite (World.setReq _ rid), ← apply_ite (World.setReq _ rid)]
  rfl

theorem keyed_retryPublish (rid : Nat) (dup : Bool) : Keyed A B p (retryPublish p rid dup) :=
  keyed_sent (retryPublishW_sent p rid dup) fun w _ => retryPublishW_only A p rid dup w
theorem keyed_retryRelease (rid : Nat) (dup : Bool) : Keyed A B p (retryRelease p rid dup) :=
  keyed_sent (retryReleaseW_sent p rid dup) fun w _ => retryReleaseW_only A p rid dup w
/-- `_retrySubscribe` spreads its timers by the length of the protocol's own window -/
theorem keyed_retrySubUnsub (rid : Nat) (dup s : Bool) : Keyed A B p (retrySubUnsub p rid dup s) :=
  keyed_sent (retrySubUnsubW_sent p rid dup s) fun w hp => by
    unfold retrySubUnsubW
    rw [only_proto]
    split <;> simp only [only_setReq, only_req, only_ents, only_paddr, setReq_paddr, hp, Ents.count_filter] <;> rfl

theorem refillW_succ (p : Nat) (dup : Bool) (fuel : Nat) : Step.mod (refillW p dup (fuel + 1)) = Step.read fun w =>
    match Ents.items w.ents (w.paddr p) .queue with
    | [] => Step.ok
    | e :: _ =>
      if Ents.count w.ents (w.paddr p) .pub < (w.proto p).window then
        setEnts (fun es => Ents.dropFirst es (w.paddr p) .queue) ;;
        (if (w.req e.rid).msgId ≠ 0 then setEnts fun es => Ents.insert es (w.paddr p) .pub (w.req e.rid).msgId e.rid else Step.ok) ;;
        retryPublish p e.rid dup ;; Step.mod (refillW p dup fuel)
      else Step.ok := by
  funext w
  simp only [Step.mod, Step.read, refillW]
  rcases Ents.items w.ents (w.paddr p) .queue with _ | ⟨e, _⟩
  · rfl
  · dsimp only
    split
    · split <;> rfl
    · rfl

theorem keyed_refillW (dup : Bool) (fuel : Nat) : Keyed A B p (Step.mod (refillW p dup fuel)) := by
  induction fuel with
  | zero => exact keyed_ok
  | succ f ih =>
    rw [refillW_succ]
    refine Keyed.read (fun w hw => ?_) fun w hw => ?_
    · split
      · exact keyed_ok
      · split
        · refine Keyed.seq (keyed_setEnts hw fun es => Ents.dropFirst_filter A es _ _)
            (Keyed.seq ?_ (Keyed.seq (keyed_retryPublish _ _) ih))
          split
          · exact keyed_insert hw _ _ _
          · exact keyed_ok
        · exact keyed_ok
    · rw [only_ents, only_paddr, hw, Ents.items_filter, Ents.count_filter]
      rfl

theorem keyed_refill : Keyed A B p (refill p) :=
  Keyed.read (f := fun w => Step.mod (refillW p false (Ents.count w.ents (w.paddr p) .queue))) (fun _ _ => keyed_refillW _ _)
    fun w hw => by rw [only_ents, only_paddr, hw, Ents.count_filter]

theorem foldl_paddr {α : Type} (l : List α) (f : World → α → World) (hf : ∀ w a q, (f w a).paddr q = w.paddr q) (w : World) (q : Nat) :
    (l.foldl f w).paddr q = w.paddr q :=
  foldl_rel (R := fun w w' => ∀ q, w'.paddr q = w.paddr q) (fun _ _ => rfl) (fun h1 h2 q => (h2 q).trans (h1 q)) l f hf w q

theorem foldl_only {α : Type} (A : Nat) (l : List α) (f : World → α → World) (hf : ∀ w a, f (w.only A) a = (f w a).only A) :
    ∀ w, l.foldl f (w.only A) = (l.foldl f w).only A := by
  induction l with
  | nil => exact fun _ => rfl
  | cons a r ih => exact fun w => by rw [List.foldl, List.foldl, hf, ih]

theorem syncW_paddr (p : Nat) (w : World) (q : Nat) : (syncW p w).paddr q = w.paddr q := by
  rw [World.paddr, World.paddr, World.proto, World.proto, syncW_protos]

theorem syncW_only (w : World) (hp : w.paddr p = A) : syncW p (w.only A) = (syncW p w).only A := by
  simp only [syncW, only_ents, only_paddr, hp, Ents.items_filter]
  rw [foldl_only, only_ents, only_paddr, foldl_paddr, hp, Ents.items_filter, foldl_only]
  · intro w e
    rw [apply_ite (World.only A), retryPublishW_only]
    rfl
  · intro w e q
    split
    · exact (retryReleaseW_sent ..).paddr q
    · rfl
  · intro w e
    rw [apply_ite (World.only A), retryReleaseW_only]
    rfl

theorem keyed_syncSession : Keyed A B p (syncSession p) :=
  Keyed.mod (syncW_paddr p) (fun h w hw => syncW_only w (hw.trans h)) fun _ w _ =>
    syncW_rel (R := fun w w' => SameA A w w') (SameA.refl A) SameA.trans p
      (fun w rid => (retryReleaseW_sent p rid true w).sameA A) (fun w rid => (retryPublishW_sent p rid true w).sameA A) w

/-! ### the handlers -/

theorem keyed_purgeWindow (rel : Bool) (r : Err) : Keyed A B p (purgeWindow p rel r) := by
  refine Keyed.read (fun w hw => keyed_forEach _ fun e he => Keyed.read fun w' _ => ?_) fun w hw => ?_
  · split
    · exact Keyed.seq (keyed_remove ((Ents.items_addr he).trans hw) _ _) (keyed_fireReqDfd _ _)
    · exact keyed_ok
  · simp only [only_ents, only_paddr, hw, Ents.items_filter]

theorem keyed_purgeSession (r : Err) : Keyed A B p (purgeSession p r) := Keyed.seq (keyed_purgeWindow _ _) (keyed_purgeWindow _ _)

theorem keyed_mqttConnectionMade : Keyed A B p (mqttConnectionMade p) := by
  refine Keyed.read fun w _ => Keyed.seq ?_ (Keyed.seq keyed_refill (Keyed.read fun w' _ => ?_))
  · split
    · exact keyed_purgeSession _
    · exact keyed_syncSession
  · split
    · exact keyed_emit _
    · exact keyed_ok

theorem keyed_loopRun : Keyed A B p (loopRun p) := by
  refine Keyed.attempt (Keyed.read fun w _ => ?_) (Keyed.read fun w _ => ?_) (keyed_setProto _ _)
  · split
    · refine Keyed.seq (keyed_emit _) (Keyed.read fun w _ => ?_)
      split
      · split
        · exact keyed_raise _
        · exact keyed_callLater _ _ fun _ => keyed_setProto _ _
      · exact keyed_ok
    · exact keyed_raise _
  · split
    · split
      · exact keyed_callLater _ _ fun _ => keyed_setProto _ _
      · exact keyed_ok
    · exact keyed_ok

theorem keyed_loopStop : Keyed A B p (loopStop p) := by
  refine Keyed.read fun w _ => ?_
  split
  · exact keyed_ok
  · split
    · exact keyed_raise _
    · refine Keyed.seq (keyed_setProto _ _) ?_
      split
      · exact keyed_ok
      · exact Keyed.seq (keyed_cancelTimer _) (keyed_setProto _ _)

theorem keyed_handleCONNACK (session : Bool) (rc : Nat) : Keyed A B p (handleCONNACK p session rc) := by
  refine Keyed.read fun w _ => ?_
  split
  · exact keyed_raise _
  · split
    · exact keyed_raise _
    · split
      · exact keyed_ok
      · refine Keyed.seq (keyed_cancelTimer _) (Keyed.seq ?_ (keyed_setProto _ _))
        split
        · refine Keyed.seq (keyed_setProto _ _) (Keyed.seq keyed_mqttConnectionMade (Keyed.seq ?_ (keyed_fireDfd _ _)))
          split
          · exact Keyed.seq (keyed_setProto _ _) keyed_loopRun
          · exact keyed_ok
        · exact Keyed.seq (keyed_setProto _ _) (keyed_fireDfd _ _)

theorem keyed_handlePINGRESP : Keyed A B p (handlePINGRESP p) := by
  refine Keyed.read fun w _ => ?_
  split
  · exact keyed_ok
  · exact Keyed.seq (keyed_cancelTimer _) (keyed_setProto _ _)

theorem keyed_handleSubUnsubAck (isSub : Bool) (m : Nat) (v : Val) : Keyed A B p (handleSubUnsubAck p isSub m v) := by
  refine Keyed.read (fun w hw => ?_) fun w hw => ?_
  · dsimp only
    split
    · exact keyed_ok
    · exact Keyed.seq (keyed_remove hw _ _) (Keyed.seq (keyed_cancelAlarm _) (keyed_fireReqDfd _ _))
  · simp only [only_ents, only_paddr, hw, Ents.lookup_filter, only_req]

theorem keyed_handlePUBLISH (m : RxMsg) : Keyed A B p (handlePUBLISH p m) := by
  unfold handlePUBLISH
  split
  · exact keyed_deliver _ _
  · split
    · split
      · exact Keyed.seq (keyed_emit _) (keyed_deliver _ _)
      · exact keyed_raise _
    · split
      · refine Keyed.seq (keyed_setRx _ fun es a => Rx.insert_filter A es a _ _) ?_
        split
        · exact keyed_emit _
        · exact keyed_raise _
      · exact keyed_ok

theorem keyed_handlePUBREL (m : Nat) : Keyed A B p (handlePUBREL p m) := by
  refine Keyed.read (fun w hw => Keyed.seq ?_ ?_) fun w hw => ?_
  · split
    · exact keyed_ok
    · exact Keyed.seq (keyed_setRx _ fun es a => Rx.remove_filter A es a _) (keyed_deliver _ _)
  · split
    · exact keyed_emit _
    · exact keyed_raise _
  · simp only [only_rx, only_paddr, hw, Rx.lookup_filter]

theorem keyed_handlePUBACK (m : Nat) : Keyed A B p (handlePUBACK p m) := by
  refine Keyed.read (fun w hw => ?_) fun w hw => ?_
  · split
    · exact keyed_ok
    · split
      · exact keyed_ok
      · exact Keyed.seq (keyed_cancelAlarm _) (Keyed.seq (keyed_fireReqDfd _ _) (Keyed.seq (keyed_remove hw _ _) keyed_refill))
  · simp only [only_ents, only_paddr, hw, Ents.lookup_filter, only_req]

theorem keyed_handlePUBREC (m : Nat) : Keyed A B p (handlePUBREC p m) := by
  unfold handlePUBREC
  generalize encodePUBREL (m : Int) = E
  refine Keyed.read (fun w hw => ?_) fun w hw => ?_
  · split
    · exact keyed_ok
    · split
      · exact keyed_ok
      · refine Keyed.seq (keyed_cancelAlarm _) (Keyed.seq (keyed_remove hw _ _) ?_)
        cases E with
        | error e => exact keyed_raise _
        | ok bs =>
          exact Keyed.read fun w' hw' =>
            Keyed.seq keyed_blind (Keyed.seq (keyed_insert hw' _ _ _) (keyed_retryRelease _ _))
  · rw [only_ents, only_paddr, hw, Ents.lookup_filter]
    rfl

theorem keyed_handlePUBCOMP (m : Nat) : Keyed A B p (handlePUBCOMP p m) := by
  refine Keyed.read (fun w hw => ?_) fun w hw => ?_
  · split
    · exact keyed_ok
    · exact Keyed.seq (keyed_cancelAlarm _) (Keyed.seq (keyed_fireReqDfd _ _) (Keyed.seq (keyed_remove hw _ _) keyed_refill))
  · simp only [only_ents, only_paddr, hw, Ents.lookup_filter, only_req]

theorem keyed_processPacket (pkt : Bytes) : Keyed A B p (processPacket p pkt) := by
  have hon : ∀ (n : Nat) {s : Step}, Keyed A B p s → Keyed A B p (Step.read fun w => if allowed w p n then s else Step.ok) :=
    fun n s hs => Keyed.read fun w _ => by
      split
      · exact hs
      · exact keyed_ok
  rcases processPacket_eq p pkt with ⟨_, h⟩ | h | ⟨_, _, _, h⟩ | ⟨_, h⟩ | ⟨_, _, _, h⟩ | ⟨_, _, _, h⟩ | ⟨_, _, _, h⟩ | ⟨_, _, _, h⟩ | ⟨_, _, _, h⟩ |
    ⟨_, _, _, h⟩ | ⟨_, _, _, h⟩ <;> rw [h]
  · exact keyed_raise _
  · exact keyed_emit _
  · exact hon _ (keyed_handleCONNACK _ _)
  · exact hon _ keyed_handlePINGRESP
  · exact hon _ (keyed_handleSubUnsubAck _ _ _)
  · exact hon _ (keyed_handleSubUnsubAck _ _ _)
  · exact hon _ (keyed_handlePUBLISH _)
  · exact hon _ (keyed_handlePUBACK _)
  · exact hon _ (keyed_handlePUBREC _)
  · exact hon _ (keyed_handlePUBREL _)
  · exact hon _ (keyed_handlePUBCOMP _)

theorem keyed_dataReceived (d : Bytes) : Keyed A B p (dataReceived p d) := by
  have hacc : ∀ fuel, Keyed A B p (accumulate p fuel) := by
    intro fuel
    induction fuel with
    | zero => exact keyed_ok
    | succ f ih =>
      refine Keyed.read fun w _ => ?_
      split
      · exact keyed_ok
      · exact Keyed.seq (keyed_processPacket _) (Keyed.seq (keyed_setProto _ _) ih)
  exact Keyed.seq (keyed_setProto _ _) (Keyed.read fun w _ => hacc _)

theorem keyed_cancelWindowAlarms (l : List Ent) : Keyed A B p (cancelWindowAlarms l) :=
  keyed_forEach _ fun e _ => Keyed.read fun w _ => by
    split
    · exact keyed_ok
    · exact Keyed.seq (keyed_cancelTimer _) keyed_blind

theorem keyed_failWindow (isSub : Bool) (r : Err) : Keyed A B p (failWindow p isSub r) := by
  refine Keyed.read (fun w hw => keyed_forEach _ fun e he =>
    Keyed.seq (keyed_remove ((Ents.items_addr he).trans hw) _ _) (Keyed.read fun w' _ => keyed_fireReqDfd _ _)) fun w hw => ?_
  simp only [only_ents, only_paddr, hw, Ents.items_filter]

theorem keyed_drainQueue (r : Err) (fuel : Nat) : Keyed A B p (drainQueue p r fuel) := by
  induction fuel with
  | zero => exact keyed_ok
  | succ f ih =>
    refine Keyed.read (fun w hw => ?_) fun w hw => ?_
    · split
      · exact keyed_ok
      · refine Keyed.seq (keyed_setEnts hw fun es => Ents.dropFirst_filter A es _ _) (Keyed.seq ?_ ih)
        split
        · exact keyed_fireReqDfd _ _
        · exact keyed_ok
    · rw [only_ents, only_paddr, hw, Ents.items_filter]
      rfl

theorem keyed_doConnectionLost (r : Err) : Keyed A B p (doConnectionLost p r) := by
  refine Keyed.read (fun w hw => ?_) fun w hw => ?_
  · refine Keyed.seq (keyed_cancelWindowAlarms _) (Keyed.seq (keyed_cancelWindowAlarms _) (Keyed.seq (keyed_cancelWindowAlarms _)
      (Keyed.seq (keyed_cancelWindowAlarms _) (Keyed.seq (keyed_failWindow _ _) (Keyed.seq (keyed_failWindow _ _)
        (Keyed.read fun w' _ => ?_))))))
    split
    · refine Keyed.seq (keyed_purgeSession _) (Keyed.read (fun _ _ => keyed_drainQueue _ _) fun w2 hw2 => ?_)
      rw [only_ents, only_paddr, hw2, Ents.count_filter]
    · exact keyed_ok
  · rw [only_ents, only_paddr, hw, Ents.items_filter, Ents.items_filter, Ents.items_filter, Ents.items_filter]

theorem keyed_connectionLost (r : Err) : Keyed A B p (connectionLost p r) := by
  refine Keyed.read fun w _ => Keyed.seq ?_ (Keyed.seq ?_ (Keyed.seq (keyed_doConnectionLost r)
    (Keyed.seq (keyed_setProto _ _) (Keyed.read fun w' _ => ?_))))
  · split
    · exact keyed_ok
    · exact Keyed.seq keyed_loopStop (keyed_setProto _ _)
  · split
    · exact keyed_ok
    · exact Keyed.seq (keyed_cancelTimer _) (keyed_setProto _ _)
  · split
    · exact keyed_callLater _ _ fun _ => keyed_ok
    · exact keyed_ok

/-- the callback of a timer that belongs to protocol `p` (or to no protocol's dictionaries at all) -/
def TKind.on (p : Nat) : TKind → Prop
  | .connack _ => True
  | .pingLoop q | .pingAlarm q | .retry q _ | .onDisc q _ => q = p

/-- the handshake timeout is run by no protocol: `free_runConnack` -/
theorem keyed_runTimer (k : TKind) (hk : k.on p) (hc : ∀ cr, k ≠ .connack cr) : Keyed A B p (runTimer k) := by
  cases k with
  | connack cr => exact absurd rfl (hc cr)
  | pingLoop q => cases hk; exact Keyed.seq (keyed_setProto _ _) keyed_loopRun
  | pingAlarm q => cases hk; exact Keyed.seq (keyed_setProto _ _) (keyed_emit _)
  | retry q rid =>
    cases hk
    unfold runTimer
    refine Keyed.read fun w _ => ?_
    split
    · exact keyed_retryPublish _ _
    · exact keyed_retryRelease _ _
    · exact keyed_retrySubUnsub _ _ _
    · exact keyed_retrySubUnsub _ _ _
  | onDisc q r => exact keyed_emit _

/-! ### the application-facing calls -/

theorem keyed_mkStep (pr : Proto) (qn mid : Nat) (dfd : Option Nat) (bs : Bytes) : Keyed A B p (mkStep p pr qn mid dfd bs) :=
  Keyed.read fun _ hw =>
    Keyed.seq keyed_blind (Keyed.seq (keyed_setEnts hw fun es => Ents.append_filter A es _ _ _ _) keyed_refill)

theorem KeyedAt.apiPublish (topic : PyStr) (payload : Payload) (qos : Int) (retain : Bool) (w : World)
    (hid : B = A → scanId (w.only A) 65535 w.nextId = scanId w 65535 w.nextId) :
    KeyedAt A B p (apiPublish p topic payload qos retain) w := by
  rw [apiPublish_read]
  refine KeyedAt.read ?_
  split
  · exact keyed_emit _ w
  · split
    · exact keyed_emit _ w
    · split
      · split
        · exact keyed_emit _ w
        · exact Keyed.seq (keyed_mkStep _ _ _ _ _) (keyed_emit _) w
      · refine KeyedAt.makeId hid ?_
        split
        · exact keyed_emit _ _
        · exact keyed_newDfd (fun d => Keyed.seq (keyed_mkStep _ _ _ _ _) (keyed_emit _)) _

theorem keyed_registerSubUnsub (isSub : Bool) (i : Nat) (bs : Bytes) : Keyed A B p (registerSubUnsub p isSub i bs) :=
  Keyed.read fun _ hw => keyed_newDfd fun _ =>
    Keyed.seq keyed_blind
      (Keyed.seq (keyed_insert hw _ _ _) (Keyed.seq (keyed_retrySubUnsub _ _ _) (keyed_emit _)))

theorem KeyedAt.apiSubscribe (arg : SubArg) (qos : Int) (w : World)
    (hid : B = A → scanId (w.only A) 65535 w.nextId = scanId w 65535 w.nextId) : KeyedAt A B p (apiSubscribe p arg qos) w := by
  refine KeyedAt.read ?_ fun hw => ?_
  · split
    · exact keyed_emit _ w
    · dsimp only
      split
      · exact keyed_emit _ w
      · split
        · exact keyed_emit _ w
        · split
          · exact keyed_emit _ w
          · split
            · exact keyed_emit _ w
            · refine KeyedAt.makeId hid ?_
              split
              · exact keyed_emit _ _
              · exact keyed_registerSubUnsub _ _ _ _
  · rw [only_ents, only_paddr, hw, Ents.count_filter]
    rfl

theorem idInUse_congr {w w' : World} (he : w'.ents = w.ents) (hr : w'.reqs = w.reqs) (i : Nat) : idInUse w' i = idInUse w i := by
  simp only [idInUse, World.req, he, hr]

theorem scanId_congr {w w' : World} (he : w'.ents = w.ents) (hr : w'.reqs = w.reqs) : ∀ (fuel cur : Nat), scanId w' fuel cur = scanId w fuel cur := by
  intro fuel
  induction fuel with
  | zero => intro cur; rfl
  | succ f ih => intro cur; simp only [scanId, idInUse_congr he hr, ih]

theorem KeyedAt.apiUnsubscribe (arg : UnsubArg) (w : World)
    (hid : B = A → scanId (w.only A) 65535 w.nextId = scanId w 65535 w.nextId ∧
      scanId (w.only A) 65535 (scanId w 65535 w.nextId) = scanId w 65535 (scanId w 65535 w.nextId)) :
    KeyedAt A B p (apiUnsubscribe p arg) w := by
  refine KeyedAt.read ?_
  split
  · exact keyed_emit _ w
  · refine KeyedAt.makeId (fun h => (hid h).1) (KeyedAt.read ?_ fun hw => ?_)
    · dsimp only
      split
      · exact keyed_emit _ _
      · split
        · exact keyed_emit _ _
        · split
          · exact keyed_emit _ _
          · refine KeyedAt.makeId (fun h => ?_) ?_
            · have c1 := scanId_congr (w := w.only A)
                (w' := World.only A { w with nextId := scanId w 65535 w.nextId, idAllocs := w.idAllocs + 1 }) rfl rfl
              have c2 := scanId_congr (w := w) (w' := { w with nextId := scanId w 65535 w.nextId, idAllocs := w.idAllocs + 1 }) rfl rfl
              rw [c1, c2]
              exact (hid h).2
            · split
              · exact keyed_emit _ _
              · exact keyed_registerSubUnsub _ _ _ _
    · rw [only_ents, only_paddr, hw, Ents.count_filter]
      rfl

theorem keyed_apiConnect (a : ConnectArgs) : Keyed A B p (apiConnect p a) := by
  unfold apiConnect
  generalize a.toF.encode = E
  refine Keyed.read fun w _ => ?_
  split
  · exact keyed_emit _
  · split
    · exact keyed_emit _
    · cases E with
      | error e =>
        dsimp only
        split
        · exact keyed_emit _
        · exact keyed_raise _
      | ok pdu =>
        exact Keyed.seq (keyed_setProto _ _) (Keyed.seq (keyed_emit _) (Keyed.seq (keyed_setProto _ _)
          (Keyed.read fun w' _ => keyed_callLater _ _ fun tid => keyed_newDfd fun d =>
            Keyed.seq keyed_blind (Keyed.seq (keyed_setProto _ _) (keyed_emit _)))))

theorem keyed_apiDisconnect : Keyed A B p (apiDisconnect p) := by
  refine Keyed.read fun w _ => ?_
  split
  · exact Keyed.seq (keyed_emit _) (Keyed.seq (keyed_emit _) (keyed_emit _))
  · exact keyed_raise _

theorem keyed_apiSetWindow (n : PyNum) : Keyed A B p (apiSetWindow p n) := by
  unfold apiSetWindow
  split
  · exact keyed_raise _
  · split
    · exact keyed_raise _
    · exact Keyed.seq (keyed_setProto _ _) (keyed_emit _)

theorem keyed_apiSetTimeout (n : PyNum) : Keyed A B p (apiSetTimeout p n) := by
  unfold apiSetTimeout
  split
  · exact keyed_raise _
  · split
    · exact keyed_raise _
    · exact Keyed.seq (keyed_setProto _ _) (keyed_emit _)

theorem keyed_apiSetBandwith (b f : Rat) : Keyed A B p (apiSetBandwith p b f) := by
  unfold apiSetBandwith
  split
  · exact keyed_raise _
  · split
    · exact keyed_raise _
    · exact Keyed.seq (keyed_setProto _ _) (keyed_emit _)

end keyed

/-! ### operations -/

/-- the protocol an operation is run by; `none`: the operation touches no per-address dictionary at all (`buildProtocol`,
    the handshake timeout, firing a timer that does not exist, the harness' own `jit` / `setid`) -/
def Op.proto? (w : World) : Op → Option Nat
  | .build _ | .jit _ | .setid _ => none
  | .sethandlers p _ | .connect p _ | .disconnect p | .publish p _ _ _ _ | .subscribe p _ _ | .unsubscribe p _
  | .setwin p _ | .settimeout p _ | .setbw p _ _ | .recv p _ | .lost p _ => some p
  | .fire t =>
    match w.timers.get? t with
    | some tm =>
      (match tm.kind with
       | .connack _ => none
       | .pingLoop p | .pingAlarm p | .retry p _ | .onDisc p _ => some p)
    | none => none

/-- the identifier drawn by the operation (if it draws one) is the one it would draw if the other addresses had no
    unfinished requests: the shared counter is the only thing through which addresses see each other -/
def IdAgree (A : Nat) (w : World) : Op → Prop
  | .publish _ _ _ _ _ | .subscribe _ _ _ => scanId (w.only A) 65535 w.nextId = scanId w 65535 w.nextId
  | .unsubscribe _ _ => scanId (w.only A) 65535 w.nextId = scanId w 65535 w.nextId ∧
      scanId (w.only A) 65535 (scanId w 65535 w.nextId) = scanId w 65535 (scanId w 65535 w.nextId)
  | _ => True

theorem kind_on_of_proto? {w : World} {t : Nat} {tm : Timer} {p : Nat} (ht : w.timers.get? t = some tm)
    (hop : Op.proto? w (.fire t) = some p) : tm.kind.on p := by
  simp only [Op.proto?, ht] at hop
  cases hk : tm.kind <;> rw [hk] at hop <;> simp at hop <;> simp [TKind.on, hop]

theorem KeyedAt.fireTimer {A B p : Nat} (t : Nat) (w : World) (hop : Op.proto? w (.fire t) = some p) : KeyedAt A B p (fireTimer t) w := by
  refine KeyedAt.read ((?_ : Keyed A B p _) w)
  cases ht : w.timers.get? t with
  | none => exact keyed_emit _
  | some tm =>
    dsimp only
    split
    · exact Keyed.seq keyed_blind (keyed_runTimer _ (kind_on_of_proto? ht hop) fun cr hk => by simp [Op.proto?, ht, hk] at hop)
    · exact keyed_emit _

theorem KeyedAt.handler {A p : Nat} {w : World} {op : Op} (hop : op.proto? w = some p) (hid : w.paddr p = A → IdAgree A w op) :
    KeyedAt A (w.paddr p) p op.handler w := by
  cases op with
  | sethandlers q m => cases hop; exact (keyed_setProto _ _ : Keyed A _ p (apiSetHandlers p m)) w
  | connect q a => cases hop; exact keyed_apiConnect a w
  | disconnect q => cases hop; exact keyed_apiDisconnect w
  | publish q t pl qs r => cases hop; exact KeyedAt.apiPublish t pl qs r w hid
  | subscribe q a qs => cases hop; exact KeyedAt.apiSubscribe a qs w hid
  | unsubscribe q a => cases hop; exact KeyedAt.apiUnsubscribe a w hid
  | setwin q n => cases hop; exact keyed_apiSetWindow n w
  | settimeout q n => cases hop; exact keyed_apiSetTimeout n w
  | setbw q b f => cases hop; exact keyed_apiSetBandwith b f w
  | recv q d => cases hop; exact keyed_dataReceived d w
  | lost q r => cases hop; exact keyed_connectionLost r w
  | fire t => exact KeyedAt.fireTimer t w hop
  | _ => cases hop

theorem free_fireTimer (t : Nat) (w : World) (hop : Op.proto? w (.fire t) = none) (A : Nat) :
    fireTimer t (w.only A) = ((fireTimer t w).1.only A, (fireTimer t w).2) ∧ SameA A w (fireTimer t w).1 := by
  refine free_readAt rfl ?_
  cases ht : w.timers.get? t with
  | none => exact free_emit _
  | some tm =>
    dsimp only
    split
    · refine free_seq (free_mod fun _ _ _ => rfl) ?_
      cases hk : tm.kind with
      | connack cr => exact free_runConnack cr
      | _ => simp [Op.proto?, ht, hk] at hop
    · exact free_emit _

theorem step_only_of_handler {A : Nat} {w : World} {op : Op} (h : op.handler (w.only A) = ((op.handler w).1.only A, (op.handler w).2)) :
    step (w.only A) op = (step w op).only A := by
  unfold step
  rw [h]
  rcases op.handler w with ⟨w', _ | e⟩ <;> rfl

theorem sameA_step {A : Nat} {w : World} {op : Op} (h : SameA A w (op.handler w).1) : SameA A w (step w op) := by
  unfold step
  rcases hh : op.handler w with ⟨w', _ | e⟩ <;> (rw [hh] at h; exact h)

/-- **reads and writes go through `[self.addr]`**: an operation run by a protocol of address `A` cannot tell the world from the
    one in which every other address has empty dictionaries -- same result, same observations, same world (up to those
    entries) afterwards.  `IdAgree`: unless the identifier it draws differs, the counter being the one shared resource. -/
theorem own_step {A p : Nat} {w : World} {op : Op} (hop : op.proto? w = some p) (hp : w.paddr p = A) (hid : IdAgree A w op) :
    step (w.only A) op = (step w op).only A :=
  step_only_of_handler ((KeyedAt.handler hop (fun _ => hid) rfl).2.1 hp)

/-- an operation run by a protocol of another address leaves the `A`-part of all six dictionaries as it was -/
theorem other_step {A q : Nat} {w : World} {op : Op} (hop : op.proto? w = some q) (hq : w.paddr q ≠ A) : SameA A w (step w op) :=
  sameA_step ((KeyedAt.handler hop (fun h => absurd h hq) rfl).2.2 hq)

/-- an operation that is run by no protocol (`buildProtocol`, the handshake timeout, ...) does both: it commutes and it changes nothing -/
theorem free_step {w : World} {op : Op} (hop : op.proto? w = none) (A : Nat) :
    step (w.only A) op = (step w op).only A ∧ SameA A w (step w op) := by
  have key : op.handler (w.only A) = ((op.handler w).1.only A, (op.handler w).2) ∧ SameA A w (op.handler w).1 := by
    cases op with
    | build a => exact ⟨rfl, rfl, rfl⟩
    | jit v => exact ⟨rfl, rfl, rfl⟩
    | setid v => exact ⟨rfl, rfl, rfl⟩
    | fire t => exact free_fireTimer t w hop A
    | _ => cases hop
  exact ⟨step_only_of_handler key.1, sameA_step key.2⟩

end Mqtt
