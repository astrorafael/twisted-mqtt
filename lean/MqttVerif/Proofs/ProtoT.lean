import MqttVerif.Proofs.Session2
/-
  Transitions that change one protocol object and the timers it owns, leaving every request, entry and
  handshake record alone (the keepalive, handshake and loss transitions of Conn.lean, Lost.lean, Api.lean are of this kind): the entry-related clauses of the
  invariant carry over, the clauses local to the protocol are obligations of the caller.
-/
namespace Mqtt

theorem protoStep_inv {x : Option Nat} {w : World} (h : WInvX x w) (w' : World) (p : Nat) (ppr npr : Proto)
    (hpp : w.protos.get? p = some ppr)
    (he : w'.ents = w.ents) (hr : w'.reqs = w.reqs) (hf : w'.fired = w.fired) (hc : w'.connReqs = w.connReqs)
    (hid : w'.nextId = w.nextId) (hnr : w'.nextReq = w.nextReq) (hnd : w'.nextDfd = w.nextDfd) (hncr : w'.nextCR = w.nextCR)
    (hnp : w'.nextProto = w.nextProto) (hprofile : w'.profile = w.profile)
    (hprot : ∀ q, w'.protos.get? q = if p = q then some npr else w.protos.get? q)
    (hretryT : ∀ t q rid, Pending w' t (.retry q rid) ↔ Pending w t (.retry q rid))
    (hconnackT : ∀ t cr, Pending w' t (.connack cr) → Pending w t (.connack cr))
    (hconnackK : ∀ t cr c, w.connReqs.get? cr = some c → c.proto ≠ p → Pending w t (.connack cr) → Pending w' t (.connack cr))
    (hotherA : ∀ t q, q ≠ p → (Pending w' t (.pingAlarm q) ↔ Pending w t (.pingAlarm q)))
    (hotherL : ∀ t q, q ≠ p → (Pending w' t (.pingLoop q) ↔ Pending w t (.pingLoop q)))
    (htf : ∀ t tm, w'.timers.get? t = some tm → t < w'.nextTimer)
    (haddr : npr.addr = ppr.addr)
    (hlive : npr.lost = false → ppr.lost = false)
    (hdead : npr.lost = true → (∀ t rid, ¬ Pending w t (.retry p rid)) ∧ npr.state = .idle ∧ npr.pingTimer = none ∧ npr.pingAlarm = none)
    (hconn : npr.state = .connected → some p ≠ x → npr.lost = false →
      ∀ e ∈ w.ents, e.addr = npr.addr → e.box ≠ .queue → (w.req e.rid).alarm ≠ none)
    (hpa : ∀ t, npr.pingAlarm = some t → Pending w' t (.pingAlarm p))
    (hpt : ∀ l, npr.pingTimer = some l → l.running = true ∧ npr.state = .connected ∧ npr.pingKeepalive ≠ none ∧
      ∀ t, l.call = some t → Pending w' t (.pingLoop p))
    (hpao : ∀ t, Pending w' t (.pingAlarm p) → npr.pingAlarm = some t)
    (hplo : ∀ t, Pending w' t (.pingLoop p) → ∃ l, npr.pingTimer = some l ∧ l.call = some t)
    (hcing : npr.state = .connecting → ∃ cr c, npr.connReq = some cr ∧ w.connReqs.get? cr = some c ∧ c.proto = p ∧
      ∀ d, c.dfd = some d → d ∉ w.fired ∧ Pending w' c.alarm (.connack cr))
    (hcko : ∀ t cr c, Pending w' t (.connack cr) → w.connReqs.get? cr = some c → c.proto = p →
      npr.lost = true ∨ (npr.state = .connecting ∧ npr.connReq = some cr))
    (hcrl : ∀ cr c, npr.connReq = some cr → w.connReqs.get? cr = some c → c.proto = p ∧ ∀ d, c.dfd = some d → d ∉ w.fired)
    (hcrr : ∀ cr, npr.connReq = some cr → cr < w.nextCR)
    (hbuf : Bytes.WF npr.buffer) : WInvX x w' := by
  have hreq : w'.req = w.req := funext (req_of_reqs hr)
  have hnew : w'.protos.get? p = some npr := by rw [hprot, if_pos rfl]
  have hkeep : ∀ q, q ≠ p → w'.protos.get? q = w.protos.get? q := fun q hq => by rw [hprot, if_neg (Ne.symm hq)]
  have hlook : ∀ q qr, w'.protos.get? q = some qr → (q = p ∧ qr = npr) ∨ (q ≠ p ∧ w.protos.get? q = some qr) :=
    fun q qr hq => Dict.get?_set_cases ((Dict.get?_set w.protos p q npr).trans ((hprot q).symm.trans hq))
  have hback : ∀ {C : Nat → Proto → Prop}, C p npr → (∀ q qr, q ≠ p → w.protos.get? q = some qr → C q qr) →
      ∀ q qr, w'.protos.get? q = some qr → C q qr := by
    intro C hn ho q qr hq
    rcases hlook q qr hq with ⟨rfl, rfl⟩ | ⟨hqp, hq⟩
    · exact hn
    · exact ho q qr hqp hq
  have hfwd : ∀ q qr, w.protos.get? q = some qr → ∃ qr', w'.protos.get? q = some qr' ∧ qr'.addr = qr.addr := by
    intro q qr hq
    by_cases hqp : q = p
    · subst hqp; rw [hpp] at hq; cases hq; exact ⟨npr, hnew, haddr⟩
    · exact ⟨qr, (hkeep q hqp).trans hq, rfl⟩
  have hst : Store w'.ents w'.req w'.nextReq w'.nextDfd w'.fired w'.connReqs := by
    rw [he, hreq, hnr, hnd, hf, hc]; exact h.store
  refine WInvX.of_parts hst ?alarms ?net (hid ▸ h.idCounter) htf (hprofile ▸ h.profileOk)
  case alarms =>
    rw [he, hreq]
    refine (h.alarms.congr hretryT).protos (fun _ => rfl) hfwd (fun t q rid hpd => ?_)
      (hback (fun hx hl hs => hconn hs hx hl) fun q qr _ hq => h.connected q qr hq)
    obtain ⟨qr, a, b⟩ := h.retryLive t q rid ((hretryT t q rid).mp hpd)
    by_cases hqp : q = p
    · subst hqp
      refine ⟨npr, hnew, ?_⟩
      cases hl : npr.lost with
      | false => rfl
      | true => exact absurd ((hretryT t q rid).mp hpd) ((hdead hl).1 t rid)
    · exact ⟨qr, (hkeep q hqp).trans a, b⟩
  case net =>
    rw [hc, hncr, hnp, hf]
    constructor
    case crFresh => exact h.crFresh
    case protoFresh => exact hback (h.protoFresh p ppr hpp) fun q qr _ => h.protoFresh q qr
    case oneLive =>
      intro q1 q2 r1 r2 h1 h2 l1 l2 ha
      rcases hlook q1 r1 h1 with ⟨rfl, rfl⟩ | ⟨_, h1⟩ <;> rcases hlook q2 r2 h2 with ⟨rfl, rfl⟩ | ⟨_, h2⟩
      · rfl
      · exact h.oneLive _ _ ppr r2 hpp h2 (hlive l1) l2 (haddr ▸ ha)
      · exact h.oneLive _ _ r1 ppr h1 hpp l1 (hlive l2) (haddr ▸ ha)
      · exact h.oneLive _ _ r1 r2 h1 h2 l1 l2 ha
    case lostIdle => exact hback (fun hl => (hdead hl).2) fun q qr _ => h.lostIdle q qr
    case pingAlarm =>
      exact fun q qr t hq => hback hpa (fun q qr hqp hq t ht => (hotherA t q hqp).mpr (h.pingAlarm q qr t hq ht)) q qr hq t
    case pingTimer =>
      intro q qr l hq hl
      rcases hlook q qr hq with ⟨rfl, rfl⟩ | ⟨hqp, hq⟩
      · exact hpt l hl
      · obtain ⟨a1, a2, a3, a4⟩ := h.pingTimer q qr l hq hl
        exact ⟨a1, a2, a3, fun t ht => (hotherL t q hqp).mpr (a4 t ht)⟩
    case pingAlarmOwned =>
      intro t q hpd
      by_cases hqp : q = p
      · subst hqp; exact ⟨npr, hnew, hpao t hpd⟩
      · obtain ⟨qr, a, b⟩ := h.pingAlarmOwned t q ((hotherA t q hqp).mp hpd)
        exact ⟨qr, (hkeep q hqp).trans a, b⟩
    case pingLoopOwned =>
      intro t q hpd
      by_cases hqp : q = p
      · subst hqp
        obtain ⟨l, a, b⟩ := hplo t hpd
        exact ⟨npr, l, hnew, a, b⟩
      · obtain ⟨qr, l, a, b, c⟩ := h.pingLoopOwned t q ((hotherL t q hqp).mp hpd)
        exact ⟨qr, l, (hkeep q hqp).trans a, b, c⟩
    case connecting =>
      refine hback hcing fun q qr hqp hq hs => ?_
      obtain ⟨cr, c, i1, i2, ip, i3⟩ := h.connecting q qr hq hs
      exact ⟨cr, c, i1, i2, ip, fun d hd => ⟨(i3 d hd).1, hconnackK _ cr c i2 (ip ▸ hqp) (i3 d hd).2⟩⟩
    case connReqInj => exact h.connReqInj
    case connackOwned =>
      intro t cr hpd
      obtain ⟨c, d, a1, a2, a3, a4, pr, a5, a6⟩ := h.connackOwned t cr (hconnackT t cr hpd)
      refine ⟨c, d, a1, a2, a3, a4, ?_⟩
      by_cases hqp : c.proto = p
      · exact ⟨npr, hqp ▸ hnew, hcko t cr c hpd a1 hqp⟩
      · exact ⟨pr, (hkeep _ hqp).trans a5, a6⟩
    case connReqLive => exact fun q qr cr c hq => hback hcrl (fun q qr _ hq cr c => h.connReqLive q qr cr c hq) q qr hq cr c
    case connReqRef => exact fun q qr cr hq => hback hcrr (fun q qr _ hq cr => h.connReqRef q qr cr hq) q qr hq cr
    case bufOk => exact hback hbuf fun q qr _ => h.bufOk q qr

/-! ### the clauses of the invariant that speak of one protocol object -/

/-- what the invariant demands of protocol object `p` if `pr` is its record and `A`, `L`, `C` say which of its keepalive
    alarms, scheduled keepalive runs and handshake timeouts are pending; everything else is read in `w` -/
structure ProtoLocal (x : Option Nat) (w : World) (p : Nat) (A L : Nat → Prop) (C : Nat → Nat → Prop) (pr : Proto) : Prop where
  dead : pr.lost = true → (∀ t rid, ¬ Pending w t (.retry p rid)) ∧ pr.state = .idle ∧ pr.pingTimer = none ∧ pr.pingAlarm = none
  connected : pr.state = .connected → some p ≠ x → pr.lost = false →
    ∀ e ∈ w.ents, e.addr = pr.addr → e.box ≠ .queue → (w.req e.rid).alarm ≠ none
  pingAlarm : ∀ t, pr.pingAlarm = some t → A t
  pingTimer : ∀ l, pr.pingTimer = some l → l.running = true ∧ pr.state = .connected ∧ pr.pingKeepalive ≠ none ∧
    ∀ t, l.call = some t → L t
  pingAlarmOwned : ∀ t, A t → pr.pingAlarm = some t
  pingLoopOwned : ∀ t, L t → ∃ l, pr.pingTimer = some l ∧ l.call = some t
  connecting : pr.state = .connecting → ∃ cr c, pr.connReq = some cr ∧ w.connReqs.get? cr = some c ∧ c.proto = p ∧
    ∀ d, c.dfd = some d → d ∉ w.fired ∧ C c.alarm cr
  connackOwned : ∀ t cr c, C t cr → w.connReqs.get? cr = some c → c.proto = p →
    pr.lost = true ∨ (pr.state = .connecting ∧ pr.connReq = some cr)
  connReqLive : ∀ cr c, pr.connReq = some cr → w.connReqs.get? cr = some c → c.proto = p ∧ ∀ d, c.dfd = some d → d ∉ w.fired
  connReqRef : ∀ cr, pr.connReq = some cr → cr < w.nextCR
  bufOk : Bytes.WF pr.buffer

namespace ProtoLocal
variable {x : Option Nat} {w : World} {p : Nat} {ppr npr : Proto} {A L A' L' : Nat → Prop} {C C' : Nat → Nat → Prop}

theorem of_inv (h : WInvX x w) (hpp : w.protos.get? p = some ppr) :
    ProtoLocal x w p (Pending w · (.pingAlarm p)) (Pending w · (.pingLoop p)) (fun t cr => Pending w t (.connack cr)) ppr where
  dead hl := ⟨fun t => (h.lost_quiet hpp hl t).1, h.lostIdle p ppr hpp hl⟩
  connected hs hx hl := h.connected p ppr hpp hx hl hs
  pingAlarm t := h.pingAlarm p ppr t hpp
  pingTimer l := h.pingTimer p ppr l hpp
  pingAlarmOwned t hp := by
    obtain ⟨pr, a, b⟩ := h.pingAlarmOwned t p hp
    cases hpp.symm.trans a
    exact b
  pingLoopOwned t hp := by
    obtain ⟨pr, l, a, b⟩ := h.pingLoopOwned t p hp
    cases hpp.symm.trans a
    exact ⟨l, b⟩
  connecting := h.connecting p ppr hpp
  connackOwned t cr c hp hc hown := by
    obtain ⟨c', d, a1, _, _, _, pr, a5, a6⟩ := h.connackOwned t cr hp
    cases hc.symm.trans a1
    cases hpp.symm.trans (hown ▸ a5)
    exact a6
  connReqLive cr c := h.connReqLive p ppr cr c hpp
  connReqRef cr := h.connReqRef p ppr cr hpp
  bufOk := h.bufOk p ppr hpp

theorem congr (o : ProtoLocal x w p A L C ppr) (hA : ∀ t, A' t ↔ A t) (hL : ∀ t, L' t ↔ L t) (hC : ∀ t cr, C' t cr ↔ C t cr) :
    ProtoLocal x w p A' L' C' ppr :=
  { o with
    pingAlarm := fun t ht => (hA t).mpr (o.pingAlarm t ht)
    pingTimer := fun l hl => ⟨(o.pingTimer l hl).1, (o.pingTimer l hl).2.1, (o.pingTimer l hl).2.2.1, fun t ht => (hL t).mpr ((o.pingTimer l hl).2.2.2 t ht)⟩
    pingAlarmOwned := fun t ht => o.pingAlarmOwned t ((hA t).mp ht)
    pingLoopOwned := fun t ht => o.pingLoopOwned t ((hL t).mp ht)
    connecting := fun hs => by
      obtain ⟨cr, c, i1, i2, i3, i4⟩ := o.connecting hs
      exact ⟨cr, c, i1, i2, i3, fun d hd => ⟨(i4 d hd).1, (hC _ _).mpr (i4 d hd).2⟩⟩
    connackOwned := fun t cr c ht => o.connackOwned t cr c ((hC t cr).mp ht) }

/-- `protoStep_inv` for a world of the shape it is used on, with the obligations local to `p` as one record -/
theorem step (h : WInvX x w) (hpp : w.protos.get? p = some ppr) (w' : World) {ts : Dict Timer} {nt n : Nat} {l : List Obs}
    (hw : w' = { w with protos := w.protos.set p npr, timers := ts, nextTimer := nt, now := n, log := l })
    (hR : ∀ t q rid, Pending w' t (.retry q rid) ↔ Pending w t (.retry q rid))
    (hCT : ∀ t cr, Pending w' t (.connack cr) → Pending w t (.connack cr))
    (hCK : ∀ t cr c, w.connReqs.get? cr = some c → c.proto ≠ p → Pending w t (.connack cr) → Pending w' t (.connack cr))
    (hOA : ∀ t q, q ≠ p → (Pending w' t (.pingAlarm q) ↔ Pending w t (.pingAlarm q)))
    (hOL : ∀ t q, q ≠ p → (Pending w' t (.pingLoop q) ↔ Pending w t (.pingLoop q)))
    (htf : ∀ t tm, w'.timers.get? t = some tm → t < w'.nextTimer)
    (haddr : npr.addr = ppr.addr) (hlive : npr.lost = false → ppr.lost = false)
    (o : ProtoLocal x w p (Pending w' · (.pingAlarm p)) (Pending w' · (.pingLoop p)) (fun t cr => Pending w' t (.connack cr)) npr) :
    WInvX x w' := by
  subst hw
  exact protoStep_inv h _ p ppr npr hpp rfl rfl rfl rfl rfl rfl rfl rfl rfl rfl (fun q => by simp only [Dict.get?_set])
    hR hCT hCK hOA hOL htf haddr hlive o.dead o.connected o.pingAlarm o.pingTimer o.pingAlarmOwned o.pingLoopOwned o.connecting
    o.connackOwned o.connReqLive o.connReqRef o.bufOk

theorem set (h : WInvX x w) (hpp : w.protos.get? p = some ppr) (haddr : npr.addr = ppr.addr) (hlive : npr.lost = false → ppr.lost = false)
    (o : ProtoLocal x w p (Pending w · (.pingAlarm p)) (Pending w · (.pingLoop p)) (fun t cr => Pending w t (.connack cr)) npr) :
    WInvX x { w with protos := w.protos.set p npr } :=
  step h hpp _ rfl (fun _ _ _ => Iff.rfl) (fun _ _ => id) (fun _ _ _ _ _ => id) (fun _ _ _ => Iff.rfl) (fun _ _ _ => Iff.rfl)
    h.timerFresh haddr hlive o

theorem timer (h : WInvX x w) (hpp : w.protos.get? p = some ppr) (w' : World) {ts : Dict Timer} {nt n : Nat} {l : List Obs}
    (hw : w' = { w with protos := w.protos.set p npr, timers := ts, nextTimer := nt, now := n, log := l })
    {k0 : TKind} (hk0 : k0 = .pingAlarm p ∨ k0 = .pingLoop p) (hko : ∀ t k, k ≠ k0 → (Pending w' t k ↔ Pending w t k))
    (htf : ∀ t tm, w'.timers.get? t = some tm → t < w'.nextTimer)
    (haddr : npr.addr = ppr.addr) (hlive : npr.lost = false → ppr.lost = false)
    (o : ProtoLocal x w p (Pending w' · (.pingAlarm p)) (Pending w' · (.pingLoop p)) (fun t cr => Pending w t (.connack cr)) npr) :
    WInvX x w' := by
  have hne : ∀ k, k ≠ .pingAlarm p → k ≠ .pingLoop p → k ≠ k0 := by
    rintro k a b rfl
    exact hk0.elim a b
  exact step h hpp w' hw (fun t q rid => hko t _ (hne _ (by simp) (by simp))) (fun t cr => (hko t _ (hne _ (by simp) (by simp))).mp)
    (fun t cr _ _ _ => (hko t _ (hne _ (by simp) (by simp))).mpr)
    (fun t q hq => hko t _ (hne _ (by simpa using hq) (by simp))) (fun t q hq => hko t _ (hne _ (by simp) (by simpa using hq)))
    htf haddr hlive (o.congr (fun _ => Iff.rfl) (fun _ => Iff.rfl) fun t cr => hko t _ (hne _ (by simp) (by simp)))

end ProtoLocal

variable {x : Option Nat} {w : World} {p : Nat} {ppr : Proto}

theorem WInvX.live_of_state (h : WInvX x w) (hpp : w.protos.get? p = some ppr) (hs : ppr.state ≠ .idle) : ppr.lost = false := by
  cases hl : ppr.lost with
  | false => rfl
  | true => exact absurd (h.lostIdle p ppr hpp hl).1 hs

theorem WInvX.noLoop_of_state (h : WInvX x w) (hpp : w.protos.get? p = some ppr) (hs : ppr.state ≠ .connected) : ppr.pingTimer = none := by
  cases hl : ppr.pingTimer with
  | none => rfl
  | some l => exact absurd (h.pingTimer p ppr l hpp hl).2.1 hs


/-! ### keepalive -/

/-- the ping alarm of `p` is cancelled (PINGRESP, connection loss) or has run (`doPingError`), and forgotten -/
def pingOffW (w : World) (p : Nat) (ppr : Proto) (t : Nat) (tm : Timer) (st : TStatus) (now' : Nat) (log' : List Obs) : World :=
  { w with timers := w.timers.set t { tm with status := st }, protos := w.protos.set p { ppr with pingAlarm := none },
           now := now', log := log' }

theorem pingOff_inv {x : Option Nat} {w : World} (h : WInvX x w) (p : Nat) (ppr : Proto) (hpp : w.protos.get? p = some ppr)
    (t : Nat) (ht : ppr.pingAlarm = some t) (st : TStatus) (hst : st ≠ .pending) (now' : Nat) (log' : List Obs) :
    ∃ tm, w.timers.get? t = some tm ∧ tm.status = .pending ∧
    WInvX x (pingOffW w p ppr t tm st now' log') := by
  have o := ProtoLocal.of_inv h hpp
  obtain ⟨tm, htm, hs, hk⟩ := o.pingAlarm t ht
  have hko := kill_other (w' := pingOffW w p ppr t tm st now' log') rfl hst ⟨tm, htm, hs, hk⟩
  exact ⟨tm, htm, hs, ProtoLocal.timer h hpp _ rfl (Or.inl rfl) hko (fresh_set h.timerFresh htm _ rfl rfl) rfl id
    { o.congr (fun _ => Iff.rfl) (fun _ => hko _ _ (by simp)) (fun _ _ => Iff.rfl) with
      dead := fun hl => ⟨(o.dead hl).1, (o.dead hl).2.1, (o.dead hl).2.2.1, rfl⟩
      pingAlarm := fun _ ht' => nomatch ht'
      pingAlarmOwned := fun t' ht' => by
        obtain ⟨a, hne⟩ := (pending_dead rfl hst t' _).mp ht'
        cases ht.symm.trans (o.pingAlarmOwned t' a)
        exact absurd rfl hne }⟩

theorem handlePINGRESP_inv {x : Option Nat} {w : World} (h : WInvX x w) (p : Nat) (ppr : Proto) (hpp : w.protos.get? p = some ppr) :
    (handlePINGRESP p w).2 = none ∧ WInvX x (handlePINGRESP p w).1 := by
  simp only [handlePINGRESP, read_apply, getD_of_get? hpp]
  cases hpa : ppr.pingAlarm with
  | none => exact ⟨rfl, h⟩
  | some t =>
    simp only
    obtain ⟨tm, htm, hs, hw⟩ := pingOff_inv h p ppr hpp t hpa .cancelled (by simp) w.now w.log
    have s1 : cancelTimer t w = ({ w with timers := w.timers.set t { tm with status := .cancelled } }, none) := by
      simp only [cancelTimer, read_apply, htm, hs]; rfl
    rw [seq_ok s1, setProto_apply]
    refine ⟨rfl, ?_⟩
    have : ({ w with timers := w.timers.set t { tm with status := .cancelled } } : World).proto p = ppr := getD_of_get? hpp
    rw [this]
    exact hw

end Mqtt
