import MqttVerif.Proofs.Keepalive
import MqttVerif.Props.ConfigOk
/-
  C15, the deadline: `KDInv` -- a protocol that is not connected has no PINGRESP deadline; the deadline a protocol has exists on the timer
  table and is due at most `keepalive` seconds from now (it was armed `keepalive` seconds ahead when a PINGREQ went out with none pending;
  the clock only moves forward; timers are never re-programmed; the keepalive value changes only when a CONNACK is accepted, and then the
  protocol was connecting and had no deadline).  Structural, like `KAInv`: every operation preserves it, without `WInv` or `Env`.

  The calm handlers come from `Keepalive.lean`.  Four handlers do not keep `KDInv` leaf by leaf, because what they do is in order only
  in the state the dispatch table lets them run in: `ping` (CONNECTED), CONNACK (CONNECTING), connect() (IDLE), and `connectionLost`,
  which clears the deadline half way.  They go through `KDA p a` -- `KDInv`, and the deadline of `p` is `a` -- with `Step.Tr.seq`.
-/
namespace Mqtt

theorem getD_default {α : Type} (l : List α) (k : Nat) (d : α) (h : l.length ≤ k) : l.getD k d = d := by
  simp [List.getD_eq_getElem?_getD, List.getElem?_eq_none h]

theorem table_row (i : Nat) : Config.dispatchTable.getD i [] = Spec.dispatchTable.getD i [] := by rw [ConfigOk.dispatch_ok]

/-- which state the dispatch table requires for `connect` (0), `ping` (5) and CONNACK (6) -- for every value of `profile`, also outside 1..3 -/
theorem allowed_needs_state (w : World) (p : Nat) :
    (allowed w p 0 = true → (w.proto p).state = .idle) ∧ (allowed w p 5 = true → (w.proto p).state = .connected) ∧
    (allowed w p 6 = true → (w.proto p).state = .connecting) := by
  unfold allowed
  rw [table_row]
  have hrow : w.profile - 1 = 0 ∨ w.profile - 1 = 1 ∨ w.profile - 1 = 2 ∨ 3 ≤ w.profile - 1 := by omega
  rcases hrow with h | h | h | h
  · rw [h]; cases (w.proto p).state <;> decide
  · rw [h]; cases (w.proto p).state <;> decide
  · rw [h]; cases (w.proto p).state <;> decide
  · have : Spec.dispatchTable.length = 3 := rfl
    rw [getD_default Spec.dispatchTable (w.profile - 1) [] (by omega)]
    simp

structure KDInv (w : World) : Prop where
  tf : TF w
  alarmExists : ∀ p pr t, w.protos.get? p = some pr → pr.pingAlarm = some t → ∃ tm, w.timers.get? t = some tm
  alarmDue : ∀ p pr t tm k, w.protos.get? p = some pr → pr.pingAlarm = some t → pr.pingKeepalive = some k → w.timers.get? t = some tm →
    tm.due ≤ w.now + ticks k
  idleNoAlarm : ∀ p pr, w.protos.get? p = some pr → pr.state ≠ .connected → pr.pingAlarm = none

def KDS (s : Step) : Prop := ∀ w, KDInv w → KDInv (s w).1

/-- what `KDInv` asks of one protocol object -/
def AlarmInv (w : World) (pr : Proto) : Prop :=
  (∀ t, pr.pingAlarm = some t → ∃ tm, w.timers.get? t = some tm ∧ ∀ k, pr.pingKeepalive = some k → tm.due ≤ w.now + ticks k) ∧
  (pr.state ≠ .connected → pr.pingAlarm = none)

theorem AlarmInv.mono {w w' : World} {pr : Proto} (h : AlarmInv w pr) (hk : TKeep w w') (hn : w.now ≤ w'.now) : AlarmInv w' pr :=
  ⟨fun t ha => by
    obtain ⟨tm, ht, hd⟩ := h.1 t ha
    obtain ⟨tm', ht', hd', _⟩ := hk.keep t tm ht
    exact ⟨tm', ht', fun k hkk => by have := hd k hkk; omega⟩, h.2⟩

theorem AlarmInv.congr {w : World} {pr pr' : Proto} (h : AlarmInv w pr) (ha : pr'.pingAlarm = pr.pingAlarm)
    (hk : pr'.pingKeepalive = pr.pingKeepalive) (hs : pr'.state = pr.state) : AlarmInv w pr' := by
  unfold AlarmInv
  rw [ha, hk, hs]
  exact h

theorem AlarmInv.of_none {w : World} {pr : Proto} (h : pr.pingAlarm = none) : AlarmInv w pr := by
  refine ⟨fun t ha => ?_, fun _ => h⟩
  rw [h] at ha
  cases ha

theorem KDInv.at {w : World} (h : KDInv w) {p : Nat} {pr : Proto} (hp : w.protos.get? p = some pr) : AlarmInv w pr :=
  ⟨fun t ha => (h.alarmExists p pr t hp ha).imp fun tm ht => ⟨ht, fun k hk => h.alarmDue p pr t tm k hp ha hk ht⟩, h.idleNoAlarm p pr hp⟩

theorem KDInv.of {w : World} (tf : TF w) (h : ∀ p pr, w.protos.get? p = some pr → AlarmInv w pr) : KDInv w :=
  ⟨tf, fun p pr t hp ha => ((h p pr hp).1 t ha).imp fun _ h => h.1,
    fun p pr t tm k hp ha hk ht => by
      obtain ⟨tm', ht', hd⟩ := (h p pr hp).1 t ha
      rw [ht] at ht'
      cases ht'
      exact hd k hk,
    fun p pr hp => (h p pr hp).2⟩

/-- `w.proto q` is a fresh object when there is none at `q`: that one has no deadline -/
theorem KDInv.proto {w : World} (h : KDInv w) (q : Nat) : AlarmInv w (w.proto q) := by
  cases hq : w.protos.get? q with
  | some pr => exact getD_of_get? hq ▸ h.at hq
  | none =>
    refine .of_none ?_
    simp only [World.proto, hq]
    rfl

theorem Calm.kd {w w' : World} (c : Calm w w') (h : KDInv w) : KDInv w' :=
  .of (c.timers h.tf).tf fun p pr hp => by
    have e := c.kaView p
    rw [getD_of_get? hp] at e
    exact ((h.proto p).congr (congrArg (·.2.2.1) e) (congrArg (·.2.1) e) (congrArg (·.2.2.2) e)).mono (c.timers h.tf) c.now

theorem KDInv.setProto {w : World} (h : KDInv w) (q : Nat) (g : Proto → Proto) (hq : AlarmInv w (g (w.proto q))) :
    KDInv (setProto q g w).1 :=
  .of h.tf fun p pr hp => by
    rcases protos_setProto w q g p pr hp with ⟨_, h0⟩ | ⟨rfl, rfl⟩
    · exact h.at h0
    · exact hq

theorem kds_closed : Step.Closed KDS := Step.Closed.preserving KDInv
theorem kds_calm {s : Step} (hs : Step.Rel Calm s) : KDS s := keeps_of_calm Calm.kd hs
theorem kds_setProto (q : Nat) (g : Proto → Proto) (hg : ∀ w pr, AlarmInv w pr → AlarmInv w (g pr)) : KDS (setProto q g) := fun w h =>
  h.setProto q g (hg w _ (h.proto q))

def PS (s : Step) : Prop := ∀ w, (s w).1.protos = w.protos

theorem ps_cancelAlarm (a : Option Nat) : PS (cancelAlarm a) :=
  have c : Step.Closed PS := Step.Rel.closed (R := fun w w' => w'.protos = w.protos) (fun _ => rfl) fun h1 h2 => h2.trans h1
  c.cancelAlarm a fun t => c.cancelTimer t fun _ _ => rfl

/-- with `a = none`: what holds where the state or the keepalive value of `p` are about to change -/
def KDA (p : Nat) (a : Option Nat) (w : World) : Prop := KDInv w ∧ (w.proto p).pingAlarm = a

theorem KDInv.noAlarm {w : World} (h : KDInv w) {p : Nat} (hs : (w.proto p).state ≠ .connected) : KDA p none w := ⟨h, (h.proto p).2 hs⟩

theorem kda_calm {p : Nat} {a : Option Nat} {s : Step} (hs : Step.Rel Calm s) : Step.Tr (KDA p a) (KDA p a) s := fun w h =>
  ⟨(hs w).kd h.1, (congrArg (·.2.2.1) ((hs w).kaView p)).trans h.2⟩

theorem kda_setProto (p : Nat) {a : Option Nat} (g : Proto → Proto) (hg : ∀ pr, (g pr).pingAlarm = pr.pingAlarm)
    (ha : a = none ∨ ∀ pr, (g pr).pingKeepalive = pr.pingKeepalive ∧ (g pr).state = pr.state) :
    Step.Tr (KDA p a) (KDA p a) (setProto p g) := fun w h =>
  ⟨h.1.setProto p g (ha.elim (fun e => .of_none (by rw [hg, h.2, e])) fun e => (h.1.proto p).congr (hg _) (e _).1 (e _).2),
    by rw [proto_setProto_self, hg, h.2]⟩

theorem kds_ping (p : Nat) : KDS (ping p) := by
  intro w h
  unfold ping Step.read
  dsimp only
  split
  · rename_i hal
    refine Step.Tr.seq (A := fun w => KDInv w ∧ (w.proto p).state = .connected) (B := fun w => KDInv w ∧ (w.proto p).state = .connected)
      (fun w1 h1 => ⟨kds_calm (calm_emit _) w1 h1.1, h1.2⟩) (fun w1 h1 => ?_) (fun _ h1 => h1.1) w ⟨h, (allowed_needs_state w p).2.1 hal⟩
    dsimp only [Step.read]
    split
    · cases hk : (w1.proto p).pingKeepalive with
      | none => exact h1.1
      | some k =>
        -- the new deadline is on the table, due `k` from now
        dsimp only
        rw [callLater_apply]
        have hc : Calm w1 (w1.callLater k (.pingAlarm p)).1 := .of_protos rfl (fun tf => tkeep_callLater w1 tf _ _) (Nat.le_refl _)
        refine (hc.kd h1.1).setProto p _ ⟨fun t ht => ?_, fun hn => absurd h1.2 hn⟩
        cases ht
        refine ⟨_, by rw [callLater_timers, Dict.get?_set, if_pos rfl], fun k' hk' => ?_⟩
        cases hk.symm.trans hk'
        exact Nat.le_refl _
    · exact h1.1
  · exact h

theorem kds_loopRun (p : Nat) : KDS (loopRun p) :=
  kds_closed.loopRun (kds_ping p)
    (fun _ => kds_closed.callLater _ _ (kds_calm fun w => .of_protos rfl (fun h => tkeep_callLater w h _ _) (Nat.le_refl _)) fun _ =>
      kds_setProto _ _ fun _ _ h => h.congr rfl rfl rfl)
    (kds_setProto _ _ fun _ _ h => h.congr rfl rfl rfl)

theorem kda_handleCONNACK (p : Nat) (session : Bool) (rc : Nat) : Step.Tr (KDA p none) KDInv (handleCONNACK p session rc) := by
  have hk : ∀ {s : Step}, KDS s → Step.Tr (KDA p none) KDInv s := fun h w h' => h w h'.1
  refine Step.Tr.read fun w => ?_
  split
  · exact fun _ h => h.1
  · split
    · exact fun _ h => h.1
    · split
      · exact fun _ h => h.1
      · refine Step.Tr.seq (kda_calm (calm_cancelTimer _)) (Step.Tr.seq ?_ (kds_calm (calm_setProto _ _ fun _ => rfl)) fun _ h => h)
          fun _ h => h.1
        split
        · refine Step.Tr.seq (kda_setProto p _ (fun _ => rfl) (Or.inl rfl)) (Step.Tr.seq (kda_calm (calm_mqttConnectionMade p))
            (Step.Tr.seq ?_ (kds_calm (calm_fireDfd _ _)) fun _ h => h) fun _ h => h.1) fun _ h => h.1
          split
          · exact Step.Tr.seq (kda_setProto p _ (fun _ => rfl) (Or.inl rfl)) (hk (kds_loopRun p)) fun _ h => h.1
          · exact fun _ h => h.1
        · exact Step.Tr.seq (kda_setProto p _ (fun _ => rfl) (Or.inl rfl)) (hk (kds_calm (calm_fireDfd _ _))) fun _ h => h.1

theorem kds_apiConnect (p : Nat) (a : ConnectArgs) : KDS (apiConnect p a) := by
  intro w h
  cases hal : allowed w p 0 with
  | false =>
    unfold apiConnect Step.read
    dsimp only
    rw [hal]
    exact kds_calm (calm_emit _) w h
  | true =>
    have hs : (w.proto p).state ≠ .connected := by
      rw [(allowed_needs_state w p).1 hal]
      nofun
    have c : Step.Closed (Step.Tr (KDA p none) (KDA p none)) := Step.Closed.preserving _
    exact (c.apiConnect a (fun _ => kda_calm (calm_emit _)) (kda_calm (calm_setProto _ _ fun _ => rfl)) (fun _ _ => kda_calm (calm_emit _))
      (kda_setProto p _ (fun _ => rfl) (Or.inl rfl)) (fun _ _ => kda_calm (calm_callLater _ _ fun _ => calm_newDfd fun _ =>
        calm_closed.seq (calm_mod fun _ => ⟨rfl, rfl, rfl, rfl⟩) (calm_closed.seq (calm_setProto _ _ fun _ => rfl) (calm_emit _))))
      w (h.noAlarm hs)).1

theorem kds_connectionLost (p : Nat) (r : Err) : KDS (connectionLost p r) := by
  intro w h
  have hrest : Step.Tr (KDA p none) KDInv (doConnectionLost p r ;; setProto p (fun pr => { pr with state := .idle, lost := true }) ;;
      Step.read fun w => if (w.proto p).onDisc then callLater (1 / 10 : Rat) (.onDisc p r) fun _ => Step.ok else Step.ok) :=
    Step.Tr.seq (kda_calm (calm_doConnectionLost p r)) (Step.Tr.seq (kda_setProto p _ (fun _ => rfl) (Or.inl rfl))
      (fun w h => kds_calm (calm_closed.read fun w => by
        split
        · exact calm_callLater _ _ fun _ => calm_closed.ok
        · exact calm_closed.ok) w h.1) fun _ h => h.1) fun _ h => h.1
  unfold connectionLost Step.read
  dsimp only
  refine Step.Tr.seq (A := KDA p (w.proto p).pingAlarm) (B := KDA p (w.proto p).pingAlarm) ?_ ?_ (fun _ h => h.1) w ⟨h, rfl⟩
  · have c : Step.Closed (Step.Tr (KDA p (w.proto p).pingAlarm) (KDA p (w.proto p).pingAlarm)) := Step.Closed.preserving _
    split
    · exact c.ok
    · exact c.seq (c.loopStop (kda_setProto p _ (fun _ => rfl) (Or.inr fun _ => ⟨rfl, rfl⟩)) (fun _ => kda_calm (calm_cancelTimer _))
        (kda_setProto p _ (fun _ => rfl) (Or.inr fun _ => ⟨rfl, rfl⟩))) (kda_setProto p _ (fun _ => rfl) (Or.inr fun _ => ⟨rfl, rfl⟩))
  · split
    · rename_i hn
      exact Step.Tr.seq (B := KDA p none) (fun _ h => ⟨h.1, h.2.trans hn⟩) hrest fun _ h => h.1
    · rw [seq_assoc]
      refine Step.Tr.seq (kda_calm (calm_cancelTimer _)) (Step.Tr.seq (B := KDA p none) (fun w h => ⟨?_, ?_⟩) hrest fun _ h => h.1)
        fun _ h => h.1
      · exact kds_setProto _ _ (fun _ _ _ => .of_none rfl) w h.1
      · rw [proto_setProto_self]

/-- **every operation keeps `KDInv`** -- no `Env`, no `WInv` -/
theorem kd_step (w : World) (h : KDInv w) (op : Op) : KDInv (step w op) :=
  step_of_calm Calm.kd (fun _ _ => kds_setProto _ _ fun _ _ _ => .of_none rfl) kds_apiConnect
    (fun p s rc w h => by
      dsimp only [Step.read]
      split
      · rename_i hal
        refine kda_handleCONNACK p s rc w (h.noAlarm ?_)
        rw [(allowed_needs_state w p).2.2 hal]
        nofun
      · exact h)
    (fun p => kds_closed.handlePINGRESP (fun _ => kds_calm (calm_cancelTimer _)) (kds_setProto _ _ fun _ _ _ => .of_none rfl))
    kds_connectionLost
    (fun q => kds_closed.seq (kds_setProto _ _ fun _ _ h => h.congr rfl rfl rfl) (kds_loopRun q))
    (fun q => kds_closed.seq (kds_setProto _ _ fun _ _ _ => .of_none rfl) (kds_calm (calm_emit _)))
    w h op

theorem KDInv.init (profile : Nat) : KDInv (World.init profile) :=
  .of (fun _ _ h => nomatch h) fun _ _ h => nomatch h

theorem run_kd (ops : List Op) (w : World) (h : KDInv w) : KDInv (run w ops) :=
  run_invariant KDInv (fun w op h => kd_step w h op) ops w h

end Mqtt
