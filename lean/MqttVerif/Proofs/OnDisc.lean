import MqttVerif.Proofs.EnvOk
import MqttVerif.Props.C08s
import MqttVerif.Proofs.Timers
/-
  C04, the notification half: `onDisconnection` is called at most once per protocol object.
  The handler is called by the timer that `connectionLost` schedules (0.1 s later) and by nothing else; a timer runs at most once;
  `connectionLost` is delivered at most once per protocol (`Env`). Counting argument over the timer table and the log:
      `odObs w p`, the `onDisc p` observations in the log ≤ `odCalled w p`, the `onDisc p` timers that have run
        ≤ `odTotal w p`, the `onDisc p` timers ever created ≤ 1.
  `ODQuiet w w'`: between `w` and `w'` none of the three counts moves and no protocol is un-lost. Every handler but
  `connectionLost` and the timer callback is built from steps of that kind (`ODS`, by the walks of Pass.lean); for those two the
  counts are followed through the one step that moves them.
-/
namespace Mqtt

def isOD (p : Nat) : TKind → Bool
  | .onDisc q _ => q == p
  | _ => false

def isODObs (p : Nat) : Obs → Bool
  | .onDisc q _ => q == p
  | _ => false

def cnt (P : Timer → Bool) (d : Dict Timer) : Nat := (d.filter fun kt => P kt.2).length

def odTotal (w : World) (p : Nat) : Nat := cnt (fun tm => isOD p tm.kind) w.timers
def odCalled (w : World) (p : Nat) : Nat := cnt (fun tm => isOD p tm.kind && tm.status == .called) w.timers
def odObs (w : World) (p : Nat) : Nat := (w.log.filter (isODObs p)).length

theorem cnt_set (P : Timer → Bool) (d : Dict Timer) (k : Nat) (v : Timer) :
    cnt P (d.set k v) + (if (d.get? k).any P then 1 else 0) = cnt P d + (if P v then 1 else 0) := by
  induction d with
  | nil =>
    simp only [Dict.set, Dict.get?, cnt, List.filter_cons, List.filter_nil, Option.any_none]
    split <;> rfl
  | cons x r ih =>
    obtain ⟨k', u⟩ := x
    simp only [cnt] at ih
    by_cases h : k' = k
    · simp only [Dict.set, Dict.get?, cnt, h, ↓reduceIte, List.filter_cons, Option.any_some]
      cases P u <;> cases P v <;> simp only [↓reduceIte, List.length_cons, Bool.false_eq_true]
    · simp only [Dict.set, Dict.get?, cnt, h, ↓reduceIte, List.filter_cons]
      cases P u <;> simp only [↓reduceIte, List.length_cons, Bool.false_eq_true] <;> omega

theorem cnt_set_fresh (P : Timer → Bool) (d : Dict Timer) (k : Nat) (v : Timer) (h : d.get? k = none) :
    cnt P (d.set k v) = cnt P d + (if P v then 1 else 0) := by
  have := cnt_set P d k v
  rw [h] at this
  exact this

theorem cnt_set_same (P : Timer → Bool) (d : Dict Timer) (k : Nat) (u v : Timer) (h : d.get? k = some u) (hP : P v = P u) :
    cnt P (d.set k v) = cnt P d := by
  have := cnt_set P d k v
  rw [h, Option.any_some, hP] at this
  exact Nat.add_right_cancel this

theorem cnt_set_gain (P : Timer → Bool) (d : Dict Timer) (k : Nat) (u v : Timer) (h : d.get? k = some u) (hu : P u = false) :
    cnt P (d.set k v) = cnt P d + (if P v then 1 else 0) := by
  have := cnt_set P d k v
  rw [h, Option.any_some, hu] at this
  exact this

theorem odObs_append {w w' : World} {o : Obs} (hl : w'.log = w.log ++ [o]) (q : Nat) :
    odObs w' q = odObs w q + (if isODObs q o then 1 else 0) := by
  simp only [odObs, hl, List.filter_append, List.length_append, List.filter_cons, List.filter_nil]
  split <;> rfl

theorem od_new {w w' : World} (h : TF w) {due : Nat} {k : TKind}
    (ht : w'.timers = w.timers.set w.nextTimer ⟨due, k, .pending⟩) (hn : w'.nextTimer = w.nextTimer + 1) :
    TF w' ∧ (∀ q, odTotal w' q = odTotal w q + (if isOD q k then 1 else 0)) ∧ ∀ q, odCalled w' q = odCalled w q := by
  refine ⟨fun t tm hg => ?_, fun q => ?_, fun q => ?_⟩
  · rw [ht, Dict.get?_set] at hg
    rw [hn]
    split at hg
    · omega
    · exact Nat.lt_succ_of_lt (h t tm hg)
  · simp only [odTotal, ht]
    exact cnt_set_fresh _ _ _ _ h.fresh
  · simp only [odCalled, ht]
    rw [cnt_set_fresh _ _ _ _ h.fresh]
    exact congrArg (fun b : Bool => _ + if b then 1 else 0) (Bool.and_false _)

theorem od_status {w w' : World} (h : TF w) {t : Nat} {tm : Timer} (hg : w.timers.get? t = some tm) (hs : tm.status = .pending)
    {st : TStatus} (ht : w'.timers = w.timers.set t { tm with status := st }) (hn : w'.nextTimer = w.nextTimer) :
    TF w' ∧ (∀ q, odTotal w' q = odTotal w q) ∧
    ∀ q, odCalled w' q = odCalled w q + (if st = .called then (if isOD q tm.kind then 1 else 0) else 0) := by
  refine ⟨fun t' tm' hg' => ?_, fun q => ?_, fun q => ?_⟩
  · rw [ht, Dict.get?_set] at hg'
    rw [hn]
    split at hg'
    · rename_i heq
      exact heq ▸ h _ _ hg
    · exact h _ _ hg'
  · simp only [odTotal, ht]
    exact cnt_set_same _ _ _ tm _ hg rfl
  · simp only [odCalled, ht]
    rw [cnt_set_gain _ _ _ tm _ hg (by rw [hs]; exact Bool.and_false _)]
    cases st <;> cases isOD q tm.kind <;> rfl

structure ODSame (w w' : World) : Prop where
  tf : TF w'
  obs : ∀ p, odObs w' p = odObs w p
  total : ∀ p, odTotal w' p = odTotal w p
  called : ∀ p, odCalled w' p = odCalled w p

theorem ODSame.of_eq {w w' : World} (h : TF w) (ht : w'.timers = w.timers) (hn : w'.nextTimer = w.nextTimer)
    (ho : ∀ q, odObs w' q = odObs w q) : ODSame w w' :=
  ⟨fun t tm hg => hn ▸ h t tm (ht ▸ hg), ho, fun q => by simp only [odTotal, ht], fun q => by simp only [odCalled, ht]⟩

theorem ODSame.of_new {w w' : World} (h : TF w) {due : Nat} {k : TKind} (hk : ∀ q, isOD q k = false)
    (ht : w'.timers = w.timers.set w.nextTimer ⟨due, k, .pending⟩) (hn : w'.nextTimer = w.nextTimer + 1)
    (ho : ∀ q, odObs w' q = odObs w q) : ODSame w w' :=
  have ⟨a, b, c⟩ := od_new h ht hn
  ⟨a, ho, fun q => (b q).trans (by rw [hk q]; rfl), c⟩

/-- `same` is under `TF w`: a new timer leaves the counts alone only if its identifier is not on the table yet -/
structure ODQuiet (w w' : World) : Prop where
  same : TF w → ODSame w w'
  lost : ∀ q qr, w.protos.get? q = some qr → qr.lost = true → ∃ qr', w'.protos.get? q = some qr' ∧ qr'.lost = true

theorem ODQuiet.refl (w : World) : ODQuiet w w :=
  ⟨fun h => ⟨h, fun _ => rfl, fun _ => rfl, fun _ => rfl⟩, fun _ qr hq hl => ⟨qr, hq, hl⟩⟩

theorem ODQuiet.trans {a b c : World} (x : ODQuiet a b) (y : ODQuiet b c) : ODQuiet a c where
  same h :=
    have x := x.same h
    have y := y.same x.tf
    ⟨y.tf, fun p => (y.obs p).trans (x.obs p), fun p => (y.total p).trans (x.total p), fun p => (y.called p).trans (x.called p)⟩
  lost q qr hq hl :=
    have ⟨qr1, h1, l1⟩ := x.lost q qr hq hl
    y.lost q qr1 h1 l1

theorem ODQuiet.of_protos {w w' : World} (hs : TF w → ODSame w w') (hp : w'.protos = w.protos) : ODQuiet w w' :=
  ⟨hs, fun _ qr hq hl => ⟨qr, hp ▸ hq, hl⟩⟩

theorem Sent.quiet {p rid : Nat} {w w' : World} (s : Sent p rid w w') : ODQuiet w w' := by
  refine .of_protos (fun h => ?_) s.protos
  have ho : ∀ q, odObs w' q = odObs w q := fun q => odObs_append s.log q
  rcases s.timer with ⟨ht, hn, _⟩ | ⟨due, _, ht, hn, _⟩
  · exact .of_eq h ht hn ho
  · exact .of_new h (fun _ => rfl) ht hn ho

def ODS (s : Step) : Prop := ∀ w, ODQuiet w (s w).1

theorem ods_closed : Step.Closed ODS := Step.Rel.closed ODQuiet.refl ODQuiet.trans

theorem ods_mod {f : World → World}
    (hf : ∀ w, (f w).timers = w.timers ∧ (f w).nextTimer = w.nextTimer ∧ (f w).log = w.log ∧ (f w).protos = w.protos) :
    ODS (Step.mod f) := fun w =>
  .of_protos (fun h => .of_eq h (hf w).1 (hf w).2.1 fun q => congrArg (fun l => (l.filter (isODObs q)).length) (hf w).2.2.1) (hf w).2.2.2
theorem ODQuiet.setEnts (w : World) (f : List Ent → List Ent) : ODQuiet w (w.setEnts f) :=
  .of_protos (fun h => .of_eq h rfl rfl fun _ => rfl) rfl
theorem ods_setEnts (f : List Ent → List Ent) : ODS (setEnts f) := fun w => .setEnts w f
theorem ods_setProto (p : Nat) (f : Proto → Proto) (hf : ∀ pr, pr.lost = true → (f pr).lost = true) : ODS (setProto p f) := by
  refine fun w => ⟨fun h => .of_eq h rfl rfl fun _ => rfl, fun q qr hq hl => ?_⟩
  show ∃ qr', (w.protos.set p (f (w.proto p))).get? q = some qr' ∧ qr'.lost = true
  rw [Dict.get?_set]
  split
  · rename_i heq
    refine ⟨_, rfl, hf _ ?_⟩
    rw [World.proto, heq, hq]
    exact hl
  · exact ⟨qr, hq, hl⟩
theorem ods_emit (o : Obs) (ho : ∀ p, isODObs p o = false) : ODS (emit o) := fun w =>
  .of_protos (fun h => .of_eq h rfl rfl fun q => (odObs_append (w' := w.emit o) rfl q).trans (by rw [ho q]; rfl)) rfl
theorem ods_write (p : Nat) (b : Bytes) : ODS (write p b) := ods_emit _ fun _ => rfl
theorem ods_sent {p rid : Nat} {f : World → World} (hf : ∀ w, Sent p rid w (f w)) : ODS (Step.mod f) := fun w => (hf w).quiet
theorem ods_callLater (d : Rat) (k : TKind) (hk : ∀ p, isOD p k = false) {c : Nat → Step} (hc : ∀ t, ODS (c t)) : ODS (callLater d k c) :=
  ods_closed.callLater d k (fun _ => .of_protos (fun h => .of_new h hk rfl rfl fun _ => rfl) rfl) hc
theorem ods_newDfd {c : Nat → Step} (hc : ∀ t, ODS (c t)) : ODS (newDfd c) :=
  ods_closed.newDfd (fun _ => ods_mod fun _ => ⟨rfl, rfl, rfl, rfl⟩) hc
theorem ods_makeId {c : Nat → Step} (hc : ∀ t, ODS (c t)) : ODS (makeId c) :=
  ods_closed.makeId (fun _ => ods_mod fun _ => ⟨rfl, rfl, rfl, rfl⟩) hc
theorem ods_cancelTimer (t : Nat) : ODS (cancelTimer t) := by
  intro w
  rcases cancelTimer_cases t w with e | ⟨tm, hg, hs, e⟩ <;> rw [e]
  · exact .refl w
  · refine .of_protos (fun h => ?_) rfl
    have ⟨a, b, c⟩ := od_status (w' := { w with timers := w.timers.set t { tm with status := .cancelled } }) h hg hs rfl rfl
    exact ⟨a, fun _ => rfl, b, c⟩
theorem ods_fireDfd (d : Nat) (o : Outcome) : ODS (fireDfd d o) :=
  ods_closed.fireDfd d o (ods_mod fun _ => ⟨rfl, rfl, rfl, rfl⟩) (ods_emit _ fun _ => rfl)
theorem ods_refill (p : Nat) : ODS (refill p) :=
  refill_of_sent ODQuiet.refl ODQuiet.trans p ODQuiet.setEnts fun _ _ _ => Sent.quiet
theorem ods_syncSession (p : Nat) : ODS (syncSession p) :=
  syncSession_of_sent ODQuiet.refl ODQuiet.trans p fun _ _ _ => Sent.quiet

theorem ods_loopRun (p : Nat) : ODS (loopRun p) :=
  ods_closed.loopRun
    (ods_closed.ping (ods_closed.doPingRequest (ods_write _ _) fun _ =>
      ods_callLater _ _ (fun _ => rfl) fun _ => ods_setProto _ _ fun _ h => h))
    (fun _ => ods_callLater _ _ (fun _ => rfl) fun _ => ods_setProto _ _ fun _ h => h) (ods_setProto _ _ fun _ h => h)

theorem ods_dataReceived (p : Nat) (d : Bytes) : ODS (dataReceived p d) :=
  ods_closed.dataReceived d
    (fun pkt => ods_closed.processPacket_prims pkt (ods_emit _ fun _ => rfl) (ods_emit _ fun _ => rfl) (fun _ => ods_emit _ fun _ => rfl)
      (fun _ _ _ _ _ => ods_write _ _) ods_cancelTimer (fun _ _ => ods_fireDfd _ _) (fun _ _ => ods_fireDfd _ _)
      (fun _ _ _ => ods_setEnts _) (fun _ => ods_mod fun _ => ⟨rfl, rfl, rfl, rfl⟩) (ods_syncSession p) (ods_refill p) (ods_loopRun p)
      (fun _ => ods_closed.handlePUBREC _ ods_cancelTimer (fun _ => ods_setEnts _) (fun _ _ _ => ods_mod fun _ => ⟨rfl, rfl, rfl, rfl⟩)
        (fun _ _ => ods_setEnts _) fun _ => ods_sent (retryReleaseW_sent p _ _))
      fun _ h => ods_setProto _ _ fun pr hl => ((h pr).2.1).trans hl)
    (ods_setProto _ _ fun _ h => h) fun _ => ods_setProto _ _ fun _ h => h

theorem ods_registerSubUnsub (p : Nat) (s : Bool) (i : Nat) (bs : Bytes) : ODS (registerSubUnsub p s i bs) :=
  ods_closed.registerSubUnsub s i bs ods_newDfd (fun _ _ _ _ => ods_mod fun _ => ⟨rfl, rfl, rfl, rfl⟩) (fun _ _ _ => ods_setEnts _)
    (fun _ => ods_sent (retrySubUnsubW_sent p _ _ s)) fun _ => ods_emit _ fun _ => rfl

theorem ods_handler (op : Op) (h : match op with | .build _ | .lost .. | .fire _ => False | _ => True) : ODS op.handler := by
  cases op with
  | build a => exact h.elim
  | lost p r => exact h.elim
  | fire t => exact h.elim
  | sethandlers p m => exact ods_setProto p _ fun _ h => h
  | connect p a =>
    exact ods_closed.apiConnect a (fun _ => ods_emit _ fun _ => rfl) (ods_setProto _ _ fun _ h => h) (fun _ _ => ods_write _ _)
      (ods_setProto _ _ fun _ h => h) fun _ _ => ods_callLater _ _ (fun _ => rfl) fun _ => ods_newDfd fun _ =>
        ods_closed.seq (ods_mod fun _ => ⟨rfl, rfl, rfl, rfl⟩)
          (ods_closed.seq (ods_setProto _ _ fun _ h => h) (ods_emit _ fun _ => rfl))
  | disconnect p => exact ods_closed.apiDisconnect (ods_write _ _) (ods_emit _ fun _ => rfl) (ods_emit _ fun _ => rfl)
  | publish p t pl q r =>
    exact ods_closed.apiPublish t pl q r (fun _ => ods_emit _ fun _ => rfl) (ods_emit _ fun _ => rfl)
      (fun _ _ => ods_emit _ fun _ => rfl) ods_makeId ods_newDfd fun _ _ _ _ _ =>
        ods_closed.read fun _ => ods_closed.seq (ods_mod fun _ => ⟨rfl, rfl, rfl, rfl⟩) (ods_closed.seq (ods_setEnts _) (ods_refill p))
  | subscribe p a q => exact ods_closed.apiSubscribe a q (fun _ => ods_emit _ fun _ => rfl) ods_makeId (ods_registerSubUnsub p true)
  | unsubscribe p a => exact ods_closed.apiUnsubscribe a (fun _ => ods_emit _ fun _ => rfl) ods_makeId (ods_registerSubUnsub p false)
  | setwin p n => exact ods_closed.apiSetWindow n (fun _ _ => ods_setProto _ _ fun _ h => h) (ods_emit _ fun _ => rfl)
  | settimeout p n => exact ods_closed.apiSetTimeout n (fun _ => ods_setProto _ _ fun _ h => h) (ods_emit _ fun _ => rfl)
  | setbw p b f => exact ods_closed.apiSetBandwith b f (ods_setProto _ _ fun _ h => h) (ods_emit _ fun _ => rfl)
  | jit v => exact ods_mod fun _ => ⟨rfl, rfl, rfl, rfl⟩
  | setid v => exact ods_mod fun _ => ⟨rfl, rfl, rfl, rfl⟩
  | recv p d => exact ods_dataReceived p d

theorem cnt_mono (P Q : Timer → Bool) (h : ∀ t, P t = true → Q t = true) (d : Dict Timer) : cnt P d ≤ cnt Q d := by
  induction d with
  | nil => exact Nat.le_refl _
  | cons x r ih =>
    simp only [cnt, List.filter_cons] at ih ⊢
    cases hp : P x.2
    · simp only [Bool.false_eq_true, ↓reduceIte]
      split
      · exact Nat.le_succ_of_le ih
      · exact ih
    · simp only [h _ hp, ↓reduceIte, List.length_cons]
      exact Nat.succ_le_succ ih

structure ODInv (w : World) : Prop where
  tf : TF w
  le : ∀ p, odObs w p ≤ odCalled w p
  one : ∀ p, odTotal w p ≤ 1
  lost : ∀ p, 0 < odTotal w p → ∃ pr, w.protos.get? p = some pr ∧ pr.lost = true

theorem ODInv.init (profile : Nat) : ODInv (World.init profile) :=
  ⟨fun t tm h => by simp [World.init, Dict.get?] at h, fun p => by simp [odObs, odCalled, cnt, World.init], fun p => by simp [odTotal, cnt, World.init],
   fun p h => by simp [odTotal, cnt, World.init] at h⟩

theorem ODInv.same {w w' : World} (h : ODInv w) (s : ODQuiet w w') : ODInv w' :=
  have e := s.same h.tf
  ⟨e.tf, fun p => by rw [e.obs, e.called]; exact h.le p, fun p => by rw [e.total]; exact h.one p,
   fun p hp => by
     rw [e.total] at hp
     obtain ⟨pr, a, b⟩ := h.lost p hp
     exact s.lost p pr a b⟩

theorem ods_runTimer {k : TKind} (hk : ∀ q, isOD q k = false) : ODS (runTimer k) := by
  cases k with
  | connack cr =>
    exact ods_closed.runTimer_connack cr (fun _ => ods_fireDfd _ _) (fun _ => ods_mod fun _ => ⟨rfl, rfl, rfl, rfl⟩)
      fun _ => ods_emit _ fun _ => rfl
  | pingLoop p => exact ods_closed.seq (ods_setProto _ _ fun _ h => h) (ods_loopRun p)
  | pingAlarm p => exact ods_closed.seq (ods_setProto _ _ fun _ h => h) (ods_emit _ fun _ => rfl)
  | retry p rid =>
    exact ods_closed.runTimer_retry p rid (ods_sent (retryPublishW_sent p rid true)) (ods_sent (retryReleaseW_sent p rid true))
      fun s => ods_sent (retrySubUnsubW_sent p rid true s)
  | onDisc p r => cases (beq_self_eq_true p).symm.trans (hk p)

/-- the notification timer of `p` becomes `called` before the one observation is logged -/
theorem od_fireTimer {w : World} (h : ODInv w) (t : Nat) : ODInv (fireTimer t w).1 := by
  refine fireTimer_at (Q := fun r => ODInv r.1) t w (h.same (ods_emit _ (fun _ => rfl) w)) fun tm hg hs => ?_
  have key : ∀ w1 : World, w1.timers = w.timers.set t { tm with status := .called } → w1.nextTimer = w.nextTimer →
      w1.log = w.log → w1.protos = w.protos → ODInv (runTimer tm.kind w1).1 := by
    intro w1 ht hn hl hp
    obtain ⟨a, b, c⟩ := od_status h.tf hg hs ht hn
    have ho : ∀ q, odObs w1 q = odObs w q := fun q => congrArg (fun l => (l.filter (isODObs q)).length) hl
    have plain : (∀ q, isOD q tm.kind = false) → ODInv (runTimer tm.kind w1).1 := fun hk =>
      h.same (ODQuiet.trans (.of_protos (fun _ => ⟨a, ho, b, fun q => (c q).trans (by rw [hk q]; rfl)⟩) hp) (ods_runTimer hk w1))
    cases hk : tm.kind with
    | onDisc p r =>
      refine ⟨a, fun q => ?_, fun q => Nat.le_trans (Nat.le_of_eq (b q)) (h.one q), fun q hq => hp ▸ h.lost q (b q ▸ hq)⟩
      have e1 := odObs_append (w := w1) (w' := w1.emit (.onDisc p r)) rfl q
      have e2 := c q
      have := h.le q
      rw [hk] at e2
      rw [ho q] at e1
      show odObs (w1.emit (.onDisc p r)) q ≤ odCalled w1 q
      cases hpq : p == q <;> simp only [isOD, isODObs, hpq, ↓reduceIte, Bool.false_eq_true] at e1 e2 <;> omega
    | _ =>
      rw [← hk]
      exact plain fun _ => by rw [hk]; rfl
  exact key _ rfl rfl rfl rfl

/-- the part of `connectionLost` before the notification is scheduled, `w` being the world it starts in -/
def lostPrefix (p : Nat) (reason : Err) (w : World) : Step :=
  (match (w.proto p).pingTimer with
   | none => Step.ok
   | some _ => loopStop p ;; setProto p (fun pr => { pr with pingTimer := none })) ;;
  (match (w.proto p).pingAlarm with
   | none => Step.ok
   | some tid => cancelTimer tid ;; setProto p (fun pr => { pr with pingAlarm := none })) ;;
  doConnectionLost p reason ;;
  setProto p (fun pr => { pr with state := .idle, lost := true })

theorem connectionLost_split (p : Nat) (r : Err) (w : World) :
    connectionLost p r w = (lostPrefix p r w ;; Step.read fun w =>
      if (w.proto p).onDisc then callLater (1 / 10 : Rat) (.onDisc p r) fun _ => Step.ok else Step.ok) w := by
  simp only [lostPrefix, seq_assoc]
  rfl

theorem ods_lostPrefix (p : Nat) (r : Err) (w : World) : ODS (lostPrefix p r w) := by
  refine ods_closed.seq ?_ (ods_closed.seq ?_ (ods_closed.seq ?_ (ods_setProto _ _ fun _ _ => rfl)))
  · split
    · exact ods_closed.ok
    · exact ods_closed.seq (ods_closed.loopStop (ods_setProto _ _ fun _ h => h) ods_cancelTimer (ods_setProto _ _ fun _ h => h))
        (ods_setProto _ _ fun _ h => h)
  · split
    · exact ods_closed.ok
    · exact ods_closed.seq (ods_cancelTimer _) (ods_setProto _ _ fun _ h => h)
  · exact ods_closed.doConnectionLost r ods_cancelTimer (fun _ => ods_mod fun _ => ⟨rfl, rfl, rfl, rfl⟩) (fun _ _ _ => ods_setEnts _)
      (fun _ => ods_setEnts _) fun _ => ods_fireDfd _ _

theorem connectionLost_od (p : Nat) (r : Err) (w : World) :
    ∃ w1, ODQuiet w w1 ∧ ((connectionLost p r w).1 = w1 ∨ (connectionLost p r w).1 = (w1.callLater (1 / 10) (.onDisc p r)).1) := by
  have hpre := ods_lostPrefix p r w w
  rw [connectionLost_split]
  simp only [Step.seq]
  generalize lostPrefix p r w w = x at hpre ⊢
  rcases x with ⟨w1, _ | e⟩
  · refine ⟨w1, hpre, ?_⟩
    simp only [read_apply]
    split
    · exact .inr rfl
    · exact .inl rfl
  · exact ⟨w1, hpre, .inl rfl⟩

theorem od_connectionLost {w : World} (hw : WInv w) (h : ODInv w) {p : Nat} (hlive : Live w p) (r : Err) :
    ODInv (connectionLost p r w).1 := by
  obtain ⟨ppr, hpp, hnl⟩ := hlive
  obtain ⟨pr', c1, _, c3, _⟩ := (connectionLost_full hw p ppr hpp hnl r).2.2.proto
  obtain ⟨w1, hq, e | e⟩ := connectionLost_od p r w
  · rw [e]
    exact h.same hq
  · -- `Env`: this is the first `connectionLost` for `p`, so none of its notification timers exists yet
    have h0 : odTotal w p = 0 := Nat.eq_zero_of_not_pos fun hc => by
      obtain ⟨pr, a, b⟩ := h.lost p hc
      rw [hpp] at a
      cases a
      rw [hnl] at b
      cases b
    have s := hq.same h.tf
    obtain ⟨a, b, c⟩ := od_new (w' := (w1.callLater (1 / 10) (.onDisc p r)).1) s.tf rfl rfl
    rw [e] at c1 ⊢
    refine ⟨a, fun q => ?_, fun q => ?_, fun q hq' => ?_⟩
    · show odObs w1 q ≤ _
      rw [c q, s.called q, s.obs q]
      exact h.le q
    · rw [b q, s.total q]
      by_cases hqp : p = q
      · rw [← hqp, h0]
        split <;> omega
      · simp only [isOD, beq_iff_eq, hqp, ↓reduceIte]
        exact h.one q
    · by_cases hqp : p = q
      · exact hqp ▸ ⟨pr', c1, c3⟩
      · rw [b q, s.total q] at hq'
        simp only [isOD, beq_iff_eq, hqp, ↓reduceIte] at hq'
        obtain ⟨pr, x, y⟩ := h.lost q hq'
        exact hq.lost q pr x y

theorem od_step {w : World} (hw : WInv w) (h : ODInv w) (op : Op) (henv : Env w op) : ODInv (step w op) := by
  have hi : ODInv (op.handler w).1 := by
    cases op with
    | build a =>
      -- the new object is put at an index that is free (`WInv`), so it replaces no protocol whose loss has been reported
      refine h.same ⟨fun tf => .of_eq tf rfl rfl fun _ => rfl, fun q qr hq hl => ⟨qr, ?_, hl⟩⟩
      show (w.protos.set w.nextProto { addr := a }).get? q = some qr
      rw [Dict.get?_set, if_neg (Nat.ne_of_gt (hw.protoFresh q qr hq))]
      exact hq
    | lost p r => exact od_connectionLost hw h henv r
    | fire t => exact od_fireTimer h t
    | _ => exact h.same (ods_handler _ trivial w)
  exact Step.Rel.step (R := fun _ w' => ODInv w') hi fun _ _ hi => hi.same (ods_emit _ (fun _ => by split <;> rfl) _)

theorem run_od : ∀ (ops : List Op) {w : World}, WInv w → ODInv w → EnvRun w ops → ODInv (run w ops) := fun ops w hw h henv =>
  (run_induction (I := fun w => WInv w ∧ ODInv w) (G := EnvRun)
    (fun _ op _ ⟨hw, h⟩ henv => ⟨⟨step_inv hw op henv.1, od_step hw h op henv.1⟩, henv.2⟩) ops w ⟨hw, h⟩ henv).2

theorem ODInv.obs_le_total {w : World} (h : ODInv w) (p : Nat) : odObs w p ≤ odTotal w p :=
  Nat.le_trans (h.le p) (cnt_mono _ _ (fun _ ht => (Bool.and_eq_true _ _ ▸ ht).1) w.timers)

/-- **`onDisconnection` is called at most once per protocol object**, in every history that respects `Env` -/
theorem notified_at_most_once (profile : Nat) (hp : profile = 1 ∨ profile = 2 ∨ profile = 3) (ops : List Op)
    (henv : EnvRun (World.init profile) ops) (p : Nat) :
    ((run (World.init profile) ops).log.filter (isODObs p)).length ≤ 1 :=
  have h := run_od ops (WInv.init profile hp) (ODInv.init profile) henv
  Nat.le_trans (h.obs_le_total p) (h.one p)

/-- ... and only after the loss of that protocol has been reported -/
theorem notified_only_after_loss (profile : Nat) (hp : profile = 1 ∨ profile = 2 ∨ profile = 3) (ops : List Op)
    (henv : EnvRun (World.init profile) ops) (p : Nat)
    (hn : 0 < ((run (World.init profile) ops).log.filter (isODObs p)).length) :
    ∃ pr, (run (World.init profile) ops).protos.get? p = some pr ∧ pr.lost = true :=
  have h := run_od ops (WInv.init profile hp) (ODInv.init profile) henv
  h.lost p (Nat.lt_of_lt_of_le hn (h.obs_le_total p))

end Mqtt
