import MqttVerif.Proofs.Lost
/-
  Timer expiry: each kind of DelayedCall callback preserves the invariant and raises nothing.
-/
namespace Mqtt

/-! ### the handshake times out -/

def connTimeoutW (w : World) (t : Nat) (tm : Timer) (cr : Nat) (c : ConnReq) (d : Nat) (now' : Nat) (log' : List Obs) : World :=
  { w with now := now', timers := w.timers.set t { tm with status := .called }, fired := d :: w.fired, log := log',
           connReqs := w.connReqs.set cr { c with dfd := none } }

theorem connTimeout_inv {x : Option Nat} {w : World} (h : WInvX x w) (t : Nat) (tm : Timer) (htm : w.timers.get? t = some tm)
    (hts : tm.status = .pending) (cr : Nat) (hk : tm.kind = .connack cr) (c : ConnReq) (hc : w.connReqs.get? cr = some c)
    (d : Nat) (hd : c.dfd = some d) (hnf : d ∉ w.fired) (hal : c.alarm = t) (now' : Nat) (log' : List Obs) :
    WInvX x (connTimeoutW w t tm cr c d now' log') := by
  have hpe : Pending w t (.connack cr) := ⟨tm, htm, hts, hk⟩
  have hkp := fun t' k => pending_dead (w' := connTimeoutW w t tm cr c d now' log') rfl (by simp) t' k
  have hko := fun t' k hk' => kill_other (w' := connTimeoutW w t tm cr c d now' log') rfl (by simp) hpe t' k hk'
  have hd1 := h.connReq cr c d hc hd hnf
  have hother : ∀ cr' c' d', cr ≠ cr' → w.connReqs.get? cr' = some c' → c'.dfd = some d' → d' ≠ d := by
    intro cr' c' d' hne hc' hd' hdd
    subst hdd
    exact hne (h.connReqInj cr cr' c c' d' hc hc' hd hd')
  have hst := h.store.fire hd1.1 hd1.2
  refine .of_parts { hst with connReq := ?_, connReqFresh := ?_ } (h.alarms.congr fun _ _ _ => hko _ _ (by simp))
    { h.net with
      crFresh := ?_, pingAlarm := ?_, pingTimer := ?_, pingAlarmOwned := ?_, pingLoopOwned := ?_, connecting := ?_,
      connReqInj := ?_, connackOwned := ?_, connReqLive := ?_ } h.idCounter (fresh_set h.timerFresh htm _ rfl rfl) h.profileOk
  · intro cr' c' d' hc' hd' hnf'
    rcases Dict.get?_set_cases hc' with ⟨-, rfl⟩ | ⟨-, hc'⟩
    · cases hd'
    · exact hst.connReq cr' c' d' hc' hd' hnf'
  · intro cr' c' d' hc' hd'
    rcases Dict.get?_set_cases hc' with ⟨-, rfl⟩ | ⟨-, hc'⟩
    · cases hd'
    · exact h.connReqFresh cr' c' d' hc' hd'
  · intro cr' c' hc'
    rcases Dict.get?_set_cases hc' with ⟨rfl, -⟩ | ⟨-, hc'⟩
    · exact h.crFresh _ _ hc
    · exact h.crFresh _ _ hc'
  · intro p pr t' hp ht'
    exact (hko _ _ (by simp)).mpr (h.pingAlarm p pr t' hp ht')
  · intro p pr l hp hl
    obtain ⟨a1, a2, a3, a4⟩ := h.pingTimer p pr l hp hl
    exact ⟨a1, a2, a3, fun t' ht' => (hko _ _ (by simp)).mpr (a4 t' ht')⟩
  · intro t' p hp
    exact h.pingAlarmOwned t' p ((hko _ _ (by simp)).mp hp)
  · intro t' p hp
    exact h.pingLoopOwned t' p ((hko _ _ (by simp)).mp hp)
  · intro p pr hp hs
    obtain ⟨cr', c', i1, i2, ip, i3⟩ := h.connecting p pr hp hs
    by_cases hcc : cr = cr'
    · subst hcc
      cases hc.symm.trans i2
      exact ⟨cr, { c with dfd := none }, i1, (Dict.get?_set _ _ _ _).trans (if_pos rfl), ip, nofun⟩
    · refine ⟨cr', c', i1, (Dict.get?_set _ _ _ _).trans ((if_neg hcc).trans i2), ip, fun d' hd' => ⟨fun hm => ?_, (hko _ _ (by simpa using Ne.symm hcc)).mpr (i3 d' hd').2⟩⟩
      rcases List.mem_cons.mp hm with rfl | hm
      · exact hother cr' c' d' hcc i2 hd' rfl
      · exact (i3 d' hd').1 hm
  · intro cr1 cr2 c1 c2 d' h1 h2 hd1' hd2'
    rcases Dict.get?_set_cases h1 with ⟨-, rfl⟩ | ⟨-, h1⟩
    · cases hd1'
    · rcases Dict.get?_set_cases h2 with ⟨-, rfl⟩ | ⟨-, h2⟩
      · cases hd2'
      · exact h.connReqInj cr1 cr2 c1 c2 d' h1 h2 hd1' hd2'
  · intro t' cr' hp
    obtain ⟨hp1, hne⟩ := (hkp t' _).mp hp
    obtain ⟨c', d', a1, a2, a3, a4, a5⟩ := h.connackOwned t' cr' hp1
    by_cases hcc : cr = cr'
    · subst hcc
      cases hc.symm.trans a1
      exact absurd (a4.symm.trans hal) hne
    · refine ⟨c', d', (Dict.get?_set _ _ _ _).trans ((if_neg hcc).trans a1), a2, fun hm => ?_, a4, a5⟩
      rcases List.mem_cons.mp hm with rfl | hm
      · exact hother cr' c' d' hcc a1 a2 rfl
      · exact a3 hm
  · intro p pr cr' c' hp hcq' hc'
    rcases Dict.get?_set_cases hc' with ⟨rfl, rfl⟩ | ⟨hcc, hc2⟩
    · exact ⟨(h.connReqLive p pr _ c hp hcq' hc).1, nofun⟩
    · refine ⟨(h.connReqLive p pr cr' c' hp hcq' hc2).1, fun d' hd' hm => ?_⟩
      rcases List.mem_cons.mp hm with rfl | hm
      · exact hother cr' c' d' (Ne.symm hcc) hc2 hd' rfl
      · exact (h.connReqLive p pr cr' c' hp hcq' hc2).2 d' hd' hm

/-! ### a DelayedCall runs -/

theorem marked_eq (w : World) (t : Nat) (tm : Timer) (htm : w.timers.get? t = some tm) (n : Nat) :
    marked w (some t) n = { w with now := n, timers := w.timers.set t { tm with status := .called } } := by
  simp [marked, htm]

theorem fireTimer_inv {w : World} (h : WInv w) (t : Nat) : (fireTimer t w).2 = none ∧ WInv (fireTimer t w).1 := by
  show Step.Returns _ w WInv
  simp only [fireTimer, Step.returns_read]
  cases htm : w.timers.get? t with
  | none => exact .of_eq rfl (emit_inv h _)
  | some tm =>
    obtain ⟨due, kind, st⟩ := tm
    by_cases hts : st = .pending
    · subst hts
      simp only [↓reduceIte]
      refine .seq_eq rfl ?_
      dsimp only
      have hpe : Pending w t kind := ⟨_, htm, rfl, rfl⟩
      cases kind with
      | connack cr =>
        obtain ⟨c, d, a1, a2, a3, a4, _⟩ := h.connackOwned t cr hpe
        simp only [runTimer, Step.returns_read, a1, a2]
        exact .seq_eq (fireDfd_unfired _ d _ a3) (.of_eq rfl (connTimeout_inv h t _ htm rfl cr rfl c a1 d a2 a3 a4 _ _))
      | pingLoop p =>
        obtain ⟨pr, l, hpp, hl, hcall⟩ := h.pingLoopOwned t p hpe
        obtain ⟨tm', htm', _, hK⟩ := loopKill_inv h hpp l hl t hcall .called (by simp) _ (.inr rfl) (max w.now due)
        cases htm.symm.trans htm'
        have hnl := h.live_of_state hpp (by simp [(h.pingTimer p pr l hpp hl).2.1])
        refine .seq_eq (setProto_eq hpp) ?_
        obtain ⟨r1, r2, _⟩ := loopRun_inv hK p { pr with pingTimer := some { l with call := none } }
          (by simp [loopKillW, Dict.get?_set, hl]) hnl { l with call := none } rfl rfl
        exact ⟨r1, r2⟩
      | pingAlarm p =>
        obtain ⟨pr, hpp, hpa⟩ := h.pingAlarmOwned t p hpe
        obtain ⟨tm', htm', _, hO⟩ := pingOff_inv h p pr hpp t hpa .called (by simp) (max w.now due) (w.log ++ [.abort p])
        cases htm.symm.trans htm'
        exact .seq_eq (setProto_eq hpp) (.of_eq rfl hO)
      | retry p rid =>
        obtain ⟨e, he, rfl, hal⟩ := h.noStale t p rid hpe
        obtain ⟨hq, p', ppr, hp', hpp, haddr⟩ := h.alarm e he t hal
        cases pending_kind hpe hp'
        obtain ⟨ppr', hpp2, hnl⟩ := h.retryLive t p e.rid hp'
        cases hpp.symm.trans hpp2
        have hm := marked_eq w t _ htm (max w.now due)
        simp only at hm
        rw [← hm]
        simp only [runTimer, Step.returns_read, marked_req]
        cases (w.req e.rid).kind with
        | publish => exact .of_eq rfl (sent_inv h he hq hal hpp haddr hnl (retryPublishW_sent p e.rid true _))
        | pubrel => exact .of_eq rfl (sent_inv h he hq hal hpp haddr hnl (retryReleaseW_sent p e.rid true _))
        | subscribe => exact .of_eq rfl (sent_inv h he hq hal hpp haddr hnl (retrySubUnsubW_sent p e.rid true true _))
        | unsubscribe => exact .of_eq rfl (sent_inv h he hq hal hpp haddr hnl (retrySubUnsubW_sent p e.rid true false _))
      | onDisc p reason =>
        exact .of_eq rfl (timerStep_inv h _ rfl (fun t' k hk' => kill_other rfl (by simp) hpe t' k (hk' p reason))
          (fresh_set h.timerFresh htm _ rfl rfl))
    · simp only [hts, ↓reduceIte]
      exact .of_eq rfl (emit_inv h _)

end Mqtt
