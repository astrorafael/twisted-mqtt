import MqttVerif.Proofs.Local
import MqttVerif.Proofs.Fifo
/-
  Consequences of the invariant, and equations for single handlers, in the form the property files quote them.
-/
namespace Mqtt

/-! ### C13/C15: every pending timer has an owner; none belongs to a lost connection except the handshake
    timeout and the notification -/

/-- a request is driven by a single retry timer -/
theorem single_retry_timer {w : World} (h : WInv w) (t1 t2 p1 p2 rid : Nat)
    (h1 : Pending w t1 (.retry p1 rid)) (h2 : Pending w t2 (.retry p2 rid)) : t1 = t2 ∧ p1 = p2 := by
  obtain ⟨e1, he1, r1, a1⟩ := h.noStale t1 p1 rid h1
  obtain ⟨e2, he2, r2, a2⟩ := h.noStale t2 p2 rid h2
  rw [a1] at a2; injection a2 with a2
  subst a2
  have := pending_kind h1 h2
  injection this with hp _
  exact ⟨rfl, hp⟩

/-- a settled request (acknowledged, failed or purged: in no container any more) has no retry timer -/
theorem settled_is_silent {w : World} (h : WInv w) (rid : Nat) (hgone : ∀ e ∈ w.ents, e.rid ≠ rid) (t p : Nat) :
    ¬ Pending w t (.retry p rid) := by
  intro hp
  obtain ⟨e, he, hr, _⟩ := h.noStale t p rid hp
  exact hgone e he hr

/-- the timers of a connection that has been reported lost: nothing but the handshake timeout and the notification -/
theorem lost_has_no_timers {w : World} (h : WInv w) (p : Nat) (pr : Proto) (hp : w.protos.get? p = some pr) (hl : pr.lost = true)
    (t : Nat) :
    (∀ rid, ¬ Pending w t (.retry p rid)) ∧ ¬ Pending w t (.pingLoop p) ∧ ¬ Pending w t (.pingAlarm p) :=
  h.lost_quiet hp hl t

/-- every pending timer is accounted for: a retry timer belongs to an unfinished in-flight request of a live protocol,
    a keepalive timer to a protocol with keepalive running, a handshake timeout to a connecting (or lost) protocol -/
theorem timer_owners {w : World} (h : WInv w) (t : Nat) (k : TKind) (hp : Pending w t k) :
    match k with
    | .retry p rid => (∃ e ∈ w.ents, e.rid = rid ∧ (w.req rid).alarm = some t) ∧ ∃ pr, w.protos.get? p = some pr ∧ pr.lost = false
    | .pingLoop p => ∃ pr l, w.protos.get? p = some pr ∧ pr.pingTimer = some l ∧ l.call = some t
    | .pingAlarm p => ∃ pr, w.protos.get? p = some pr ∧ pr.pingAlarm = some t
    | .connack cr => ∃ c d, w.connReqs.get? cr = some c ∧ c.dfd = some d ∧ d ∉ w.fired ∧ c.alarm = t ∧
        ∃ pr, w.protos.get? c.proto = some pr ∧ (pr.lost = true ∨ (pr.state = .connecting ∧ pr.connReq = some cr))
    | .onDisc _ _ => True := by
  cases k with
  | retry p rid => exact ⟨h.noStale t p rid hp, h.retryLive t p rid hp⟩
  | pingLoop p => exact h.pingLoopOwned t p hp
  | pingAlarm p => exact h.pingAlarmOwned t p hp
  | connack cr => exact h.connackOwned t cr hp
  | onDisc _ _ => trivial

/-! ### C10: the refill loop -/

theorem refill_window_full (p : Nat) (dup : Bool) (fuel : Nat) (w : World)
    (h : ¬ Ents.count w.ents (w.paddr p) .pub < (w.proto p).window) : refillW p dup fuel w = w := by
  cases fuel with
  | zero => rfl
  | succ f =>
    simp only [refillW]
    split
    · rfl
    · simp [h]

theorem refill_launches_head (p : Nat) (dup : Bool) (f : Nat) (w : World) (e : Ent) (rest : List Ent)
    (hq : Ents.items w.ents (w.paddr p) .queue = e :: rest) (hroom : Ents.count w.ents (w.paddr p) .pub < (w.proto p).window) :
    refillW p dup (f + 1) w = refillW p dup f (retryPublishW p e.rid dup
      (if (w.req e.rid).msgId ≠ 0 then
        (w.setEnts fun es => Ents.dropFirst es (w.paddr p) .queue).setEnts fun es => Ents.insert es (w.paddr p) .pub (w.req e.rid).msgId e.rid
       else w.setEnts fun es => Ents.dropFirst es (w.paddr p) .queue)) := by
  simp only [refillW, hq, hroom, ↓reduceIte]

/-- **no accepted message is left unsent while the window has room**: after `_refillPublish` either the queue of
    held-back messages of the address is empty or the publish window is full -/
theorem refill_exhausts (p : Nat) (dup : Bool) : ∀ (fuel : Nat) (w : World), (Ents.items w.ents (w.paddr p) .queue).length ≤ fuel →
    Ents.items (refillW p dup fuel w).ents (w.paddr p) .queue = [] ∨
    ¬ Ents.count (refillW p dup fuel w).ents (w.paddr p) .pub < (w.proto p).window := by
  intro fuel
  induction fuel with
  | zero =>
    intro w hl
    left
    simp only [refillW]
    exact List.eq_nil_of_length_eq_zero (Nat.le_zero.mp hl)
  | succ f ih =>
    intro w hl
    cases hq : Ents.items w.ents (w.paddr p) .queue with
    | nil => left; simp only [refillW, hq]
    | cons e rest =>
      by_cases hroom : Ents.count w.ents (w.paddr p) .pub < (w.proto p).window
      · rw [refill_launches_head p dup f w e rest hq hroom]
        obtain ⟨w2, hw2⟩ : ∃ w2, w2 = retryPublishW p e.rid dup
          (if (w.req e.rid).msgId ≠ 0 then
            (w.setEnts fun es => Ents.dropFirst es (w.paddr p) .queue).setEnts fun es => Ents.insert es (w.paddr p) .pub (w.req e.rid).msgId e.rid
           else w.setEnts fun es => Ents.dropFirst es (w.paddr p) .queue) := ⟨_, rfl⟩
        rw [← hw2]
        have hprot : w2.protos = w.protos := by rw [hw2, retryPublishW_protos]; split <;> rfl
        have hpa : w2.paddr p = w.paddr p := by simp [World.paddr, World.proto, hprot]
        have hpr : w2.proto p = w.proto p := by simp [World.proto, hprot]
        have hitems : Ents.items w2.ents (w.paddr p) .queue = rest := by
          rw [hw2, retryPublishW_ents]
          split
          · simp only [setEnts_ents]
            rw [Ents.items_insert_other _ _ _ _ _ _ _ (by simp), Ents.items_dropFirst, if_pos ⟨rfl, rfl⟩, hq]; rfl
          · simp only [setEnts_ents]
            rw [Ents.items_dropFirst, if_pos ⟨rfl, rfl⟩, hq]; rfl
        have := ih w2 (by rw [hpa, hitems]; rw [hq] at hl; simpa using hl)
        rw [hpa, hpr] at this
        exact this
      · right
        rw [refill_window_full p dup (f + 1) w hroom]
        exact hroom

/-! ### C13/C18: once a connection has been reported lost nothing more is written to its transport -/

def kindOK (π : Pol) : TKind → Prop
  | .retry q _ => π.w q = true
  | .pingLoop q => π.w q = true
  | .pingAlarm q => π.t q = true
  | .connack _ => ∀ q, π.t q = true
  | .onDisc _ _ => True

theorem em_runTimer {π : Pol} (k : TKind) (hk : kindOK π k) : Emits π (runTimer k) := by
  cases k with
  | connack cr =>
    exact em_closed.runTimer_connack cr (fun _ => em_fireDfd _ _ rfl) (fun _ => em_mod fun _ => rfl) fun q => em_emit _ (hk q)
  | pingLoop p => exact em_closed.seq (em_setProto _ _) (em_loopRun p hk)
  | pingAlarm p => exact em_closed.seq (em_setProto _ _) (em_emit _ hk)
  | retry p rid =>
    exact em_closed.runTimer_retry p rid (em_sent (retryPublishW_sent _ _ _) hk) (em_sent (retryReleaseW_sent _ _ _) hk) fun _ => em_sent (retrySubUnsubW_sent _ _ _ _) hk
  | onDisc p r => exact em_emit _ rfl

/-- what one particular run of a handler appends to the log -/
def EmitsAt (π : Pol) (s : Step) (w : World) : Prop := ∃ l, (s w).1.log = w.log ++ l ∧ ∀ o ∈ l, π.ok o = true

/-- **Once a connection has been reported lost nothing more is written to its transport** (nor is it closed again):
    whatever the next operation -- bytes for another protocol, a timer, an API call on the lost protocol itself --
    under the environment assumptions (which exclude connect() on a lost protocol: known finding KF-2) -/
theorem no_write_after_lost {w : World} (h : WInv w) (op : Op) (henv : Env w op) (p : Nat) (pr : Proto)
    (hp : w.protos.get? p = some pr) (hl : pr.lost = true) :
    EmitsAt ⟨(· != p), fun _ => true, true⟩ op.handler w := by
  have hne : ∀ q, Live w q → (q != p) = true := by
    intro q ⟨qr, hq, hql⟩
    simp only [bne_iff_ne, ne_eq]
    rintro rfl
    cases hp.symm.trans hq
    exact nomatch hl.symm.trans hql
  -- the lost protocol has no state object that would accept an API call
  have hna : ∀ op, op = 1 ∨ op = 2 ∨ op = 3 ∨ op = 4 → allowed w p op = false := fun op hop =>
    Bool.eq_false_iff.mpr fun ha => nomatch hl.symm.trans (live_of_allowed h p pr hp op (by omega) (by omega) ha).1
  have href : ∀ {s : Step}, s w = (C14.refusedWith w (.retFail .state), none) →
      EmitsAt ⟨(· != p), fun _ => true, true⟩ s w := fun e => ⟨[_], by rw [e]; rfl, by simp [Pol.ok]⟩
  cases op with
  | build a => exact em_mod (fun _ => rfl) w
  | sethandlers q m => exact em_setProto _ _ w
  | connect q a => exact em_apiConnect q a (hne q henv) w
  | disconnect q =>
    by_cases hq : q = p
    · subst hq
      exact ⟨[], by rw [Op.handler, C14.disconnect_refused w q (hna 1 (by omega)), List.append_nil], nofun⟩
    · exact em_apiDisconnect q (by simp [hq]) w
  | publish q t pl qs r =>
    by_cases hq : q = p
    · subst hq
      exact href (C14.publish_refused w q t pl qs r (hna 4 (by omega)))
    · exact em_apiPublish q t pl qs r (by simp [hq]) w
  | subscribe q a qs =>
    by_cases hq : q = p
    · subst hq
      exact href (C14.subscribe_refused w q a qs (hna 2 (by omega)))
    · exact em_apiSubscribe q a qs (by simp [hq]) w
  | unsubscribe q a =>
    by_cases hq : q = p
    · subst hq
      exact href (C14.unsubscribe_refused w q a (hna 3 (by omega)))
    · exact em_apiUnsubscribe q a (by simp [hq]) w
  | setwin q n => exact em_apiSetWindow q n w
  | settimeout q n => exact em_apiSetTimeout q n w
  | setbw q b f => exact em_apiSetBandwith q b f w
  | jit v => exact em_mod (fun _ => rfl) w
  | setid v => exact em_mod (fun _ => rfl) w
  | recv q d => exact em_dataReceived q d (hne q henv.1) rfl rfl w
  | lost q r => exact em_connectionLost q r w
  | fire t =>
    refine fireTimer_at (Q := fun r => ∃ l, r.1.log = w.log ++ l ∧ ∀ o ∈ l, Pol.ok _ o = true) t w (em_emit .nofire rfl w)
      fun tm htm hs => (?_ : Emits _ _) w
    refine em_closed.seq (em_mod fun _ => rfl) (em_runTimer tm.kind ?_)
    have hpend : Pending w t tm.kind := ⟨tm, htm, hs, rfl⟩
    cases hk : tm.kind with
    | retry q rid =>
      rw [hk] at hpend
      obtain ⟨qr, a, b⟩ := h.retryLive t q rid hpend
      exact hne q ⟨qr, a, b⟩
    | pingLoop q =>
      rw [hk] at hpend
      obtain ⟨qr, l, a, b, _⟩ := h.pingLoopOwned t q hpend
      exact hne q ⟨qr, a, h.live_of_state a (by simp [(h.pingTimer q qr l a b).2.1])⟩
    | pingAlarm q => rfl
    | connack cr => intro _; rfl
    | onDisc q r => trivial

/-! ### C09: PUBREC moves the exchange from the publish window to the release window -/

/-- afterwards no PUBLISH entry carries the identifier any more, so nothing can resend the PUBLISH (`settled_is_silent`,
    and `_syncSession` resumes entries by the window they are in) -/
theorem afterPubrec_no_publish {w : World} (h : WInv w) (a m rid t : Nat) (bs : Bytes) (i : Nat) (he : (⟨a, .pub, m, rid⟩ : Ent) ∈ w.ents) :
    ∀ y ∈ (afterPubrec w a m rid t bs i).ents, ¬ (y.box = .pub ∧ y.key = m ∧ y.addr = a) ∧ y.rid ≠ rid := by
  intro y hy
  have hmem := dropArmed_mem h he (by simp) t
  simp only [afterPubrec, List.mem_append, List.mem_singleton] at hy
  rcases hy with hy | rfl
  · obtain ⟨hy1, hy2⟩ := (hmem y).mp hy
    refine ⟨fun hc => ?_, fun hc => hy2 (h.ridUnique y hy1 _ he hc)⟩
    have hk := h.keyId _ he (by simp)
    have hky := h.keyId y hy1 (by rw [hc.1]; simp)
    exact hy2 (h.idUnique y hy1 _ he (by simp [idOf, hc.1, hc.2.1]) (by simp [idOf, hc.1, hc.2.1]; exact hk.2))
  · refine ⟨by simp, ?_⟩
    have := h.ridFresh _ he
    simp only at this ⊢
    omega

/-! ### C06: inbound PUBLISH by QoS -/

theorem handlePUBLISH_qos0 (p : Nat) (m : RxMsg) (w : World) (h : m.qos = 0) : handlePUBLISH p m w = deliver p m w := by
  simp [handlePUBLISH, h]

theorem handlePUBLISH_qos1 (p : Nat) (m : RxMsg) (w : World) (h : m.qos = 1) (i : Nat) (hi : m.msgId = some i) (hlt : i < 65536) :
    ∃ bs, encodePUBACK (i : Int) = .ok bs ∧ handlePUBLISH p m w = (write p bs ;; deliver p m) w := by
  obtain ⟨bs, hbs'⟩ : ∃ bs, encodePUBACK (i : Int) = .ok bs := ⟨_, encodeAck_eq 0x40 i hlt⟩
  refine ⟨bs, hbs', ?_⟩
  unfold handlePUBLISH
  rw [hi]
  generalize hE : encodePUBACK (((some i).getD 0 : Nat) : Int) = E
  have : encodePUBACK (((some i).getD 0 : Nat) : Int) = .ok bs := hbs'
  rw [this] at hE; subst hE
  simp [h]

theorem handlePUBLISH_qos2 (p : Nat) (m : RxMsg) (w : World) (h : m.qos = 2) (i : Nat) (hi : m.msgId = some i) (hlt : i < 65536) :
    ∃ bs, encodePUBREC (i : Int) = .ok bs ∧
      handlePUBLISH p m w = (({ w with rx := Rx.insert w.rx (w.paddr p) i m } : World).emit (.write p bs), none) := by
  obtain ⟨bs, hbs'⟩ : ∃ bs, encodePUBREC (i : Int) = .ok bs := ⟨_, encodeAck_eq 0x50 i hlt⟩
  refine ⟨bs, hbs', ?_⟩
  unfold handlePUBLISH
  rw [hi]
  generalize hE : encodePUBREC (((some i).getD 0 : Nat) : Int) = E
  generalize encodePUBACK (((some i).getD 0 : Nat) : Int) = E1
  have : encodePUBREC (((some i).getD 0 : Nat) : Int) = .ok bs := hbs'
  rw [this] at hE; subst hE
  simp [h, Step.seq, Step.mod, write, emit]

theorem handlePUBREL_stored (p m : Nat) (w : World) (hm : m < 65536) (msg : RxMsg) (h : Rx.lookup w.rx (w.paddr p) m = some msg) :
    ∃ bs, encodePUBCOMP (m : Int) = .ok bs ∧
      handlePUBREL p m w = ((Step.mod (fun w' => { w' with rx := Rx.remove w'.rx (w'.paddr p) m }) ;; deliver p msg) ;; write p bs) w := by
  obtain ⟨bs, hbs'⟩ : ∃ bs, encodePUBCOMP (m : Int) = .ok bs := ⟨_, encodeAck_eq 0x70 m hm⟩
  refine ⟨bs, hbs', ?_⟩
  unfold handlePUBREL
  generalize hE : encodePUBCOMP (m : Int) = E
  rw [hbs'] at hE; subst hE
  simp [Step.read, h]

end Mqtt
