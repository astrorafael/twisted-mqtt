import MqttVerif.Proofs.More
/-
  A decidable check of the environment assumptions, so that concrete histories can be shown to satisfy the
  hypotheses of the session theorems (non-vacuity) by kernel evaluation.
-/
namespace Mqtt

theorem Dict.mem_of_get? {α : Type} {d : Dict α} {k : Nat} {v : α} (h : d.get? k = some v) : (k, v) ∈ d := by
  induction d with
  | nil => simp [Dict.get?] at h
  | cons hd tl ih =>
    obtain ⟨a, b⟩ := hd
    simp only [Dict.get?] at h
    split at h
    · rename_i heq; injection h with h; subst h; subst heq; simp
    · exact List.mem_cons_of_mem _ (ih h)

def existsB (w : World) (p : Nat) : Bool := (w.protos.get? p).isSome
def liveB (w : World) (p : Nat) : Bool := match w.protos.get? p with | some pr => !pr.lost | none => false
def freeIdB (w : World) : Bool := (List.range 65536).any fun j => decide (1 ≤ j) && !idInUse w j

/-- a sufficient, computable version of `Env` (identifier freedom is checked on the first 64 identifiers only) -/
def envOk (w : World) : Op → Bool
  | .build a => w.protos.all fun kv => decide (kv.2.addr ≠ a) || kv.2.lost
  | .recv p d => liveB w p && d.all (fun b => decide (b < 256))
  | .lost p _ => liveB w p
  | .connect p _ => liveB w p
  | .fire _ => true
  | .setid _ => false
  | .jit v => decide (0 ≤ v) && decide (v < 1)
  | .sethandlers p _ => existsB w p
  | .disconnect p => existsB w p
  | .publish p _ _ _ _ => existsB w p && (List.range 64).any fun j => decide (1 ≤ j) && !idInUse w j
  | .subscribe p _ _ => existsB w p && (List.range 64).any fun j => decide (1 ≤ j) && !idInUse w j
  | .unsubscribe p _ => existsB w p && (List.range 64).any fun j => decide (1 ≤ j) && !idInUse w j
  | .setwin p _ => existsB w p
  | .settimeout p _ => existsB w p
  | .setbw p _ _ => existsB w p

theorem existsB_sound {w : World} {p : Nat} (h : existsB w p = true) : Exists w p := by
  simp only [existsB] at h
  cases hg : w.protos.get? p with
  | none => rw [hg] at h; cases h
  | some pr => exact ⟨pr, hg⟩

theorem liveB_sound {w : World} {p : Nat} (h : liveB w p = true) : Live w p := by
  simp only [liveB] at h
  cases hg : w.protos.get? p with
  | none => rw [hg] at h; cases h
  | some pr => rw [hg] at h; exact ⟨pr, hg, by simpa using h⟩

theorem freeId_sound {w : World} (h : ((List.range 64).any fun j => decide (1 ≤ j) && !idInUse w j) = true) : FreeId w := by
  simp only [List.any_eq_true, List.mem_range, Bool.and_eq_true, decide_eq_true_eq, Bool.not_eq_true'] at h
  obtain ⟨j, hj, h1, h2⟩ := h
  exact ⟨j, h1, by omega, h2⟩

theorem envOk_sound {w : World} {op : Op} (h : envOk w op = true) : Env w op := by
  cases op with
  | build a =>
    simp only [envOk, List.all_eq_true, Bool.or_eq_true, decide_eq_true_eq] at h
    intro p pr hp ha
    rcases h (p, pr) (Dict.mem_of_get? hp) with h1 | h1
    · exact absurd ha h1
    · exact h1
  | recv p d =>
    simp only [envOk, Bool.and_eq_true, List.all_eq_true, decide_eq_true_eq] at h
    exact ⟨liveB_sound h.1, h.2⟩
  | lost p r => exact liveB_sound h
  | connect p a => exact liveB_sound h
  | fire t => trivial
  | setid v => cases h
  | jit v => simp only [envOk, Bool.and_eq_true, decide_eq_true_eq] at h; exact h
  | sethandlers p m => exact existsB_sound h
  | disconnect p => exact existsB_sound h
  | publish p t pl q r => simp only [envOk, Bool.and_eq_true] at h; exact ⟨existsB_sound h.1, freeId_sound h.2⟩
  | subscribe p a q => simp only [envOk, Bool.and_eq_true] at h; exact ⟨existsB_sound h.1, freeId_sound h.2⟩
  | unsubscribe p a => simp only [envOk, Bool.and_eq_true] at h; exact ⟨existsB_sound h.1, freeId_sound h.2⟩
  | setwin p n => exact existsB_sound h
  | settimeout p n => exact existsB_sound h
  | setbw p b f => exact existsB_sound h

def envRunOk : World → List Op → Bool
  | _, [] => true
  | w, op :: rest => envOk w op && envRunOk (step w op) rest

theorem envRunOk_sound : ∀ (ops : List Op) (w : World), envRunOk w ops = true → EnvRun w ops := by
  intro ops
  induction ops with
  | nil => intro w _; trivial
  | cons op rest ih =>
    intro w h
    simp only [envRunOk, Bool.and_eq_true] at h
    exact ⟨envOk_sound h.1, ih _ h.2⟩

/-! ### a concrete history with requests of every kind in flight, a refused and an accepted handshake, retransmissions,
    garbage, a persistent reconnect and a clean loss: it satisfies the environment assumptions (so the hypotheses of the
    session theorems are satisfiable along it) and, as `no_escape` demands, its log contains no escaped exception -/

def cargs (ka : Int) (clean : Bool) : ConnectArgs := { clientId := "c", keepalive := ka, version := .v311, cleanStart := clean }

def demo : List Op :=
  [ .build 0, .sethandlers 0 7, .connect 0 (cargs 5 false), .recv 0 [0x20, 2, 0, 5],           -- refused
    .connect 0 (cargs 5 false), .publish 0 (.str "a") (.bytearray [1]) 1 false,                -- publish while connecting
    .recv 0 [0x20, 2, 0, 0],                                                                    -- accepted: keepalive on
    .setwin 0 (.int 2), .publish 0 (.str "b") (.bytearray [2]) 2 false, .publish 0 (.str "c") (.str "x") 1 true,
    .publish 0 (.str "q0") (.bytearray []) 0 false,
    .subscribe 0 (.tuple (.str "s/#") 1) 0, .unsubscribe 0 (.list [.str "u"]),
    .recv 0 [0x40, 2, 0], .recv 0 [1],                                                          -- PUBACK 1 in two chunks
    .recv 0 [0x50, 2, 0, 2],                                                                    -- PUBREC 2
    .fire 3, .fire 9,                                                                           -- some timers (whatever they are)
    .recv 0 [0xF0, 0, 0x90, 3, 0, 4, 1],                                                        -- garbage, then SUBACK 4
    .recv 0 [0x32, 5, 0, 1, 0x74, 0, 9, 0x41], .recv 0 [0x62, 2, 0, 9], .recv 0 [0x62, 2, 0, 9], -- inbound QoS 1 id 9, PUBREL twice
    .lost 0 .connLost,                                                                          -- persistent loss
    .build 0, .connect 1 (cargs 0 false), .recv 1 [0x20, 2, 1, 0],                              -- resume
    .recv 1 [0x70, 2, 0, 2], .disconnect 1, .lost 1 .connDone,
    .build 0, .connect 2 (cargs 0 true), .recv 2 [0x20, 2, 0, 0], .publish 2 (.str "z") (.bytearray [3]) 1 false,
    .lost 2 .connAborted ]                                                                      -- clean loss

theorem demo_env : EnvRun (World.init 3) demo := envRunOk_sound demo (World.init 3) (by decide +kernel)

theorem demo_inv : WInv (run (World.init 3) demo) := reachable_inv 3 (Or.inr (Or.inr rfl)) demo demo_env

example : ((run (World.init 3) demo).log.filter fun o => match o with | .esc _ => true | _ => false) = [] ∧
    (run (World.init 3) demo).ents = [] ∧ 8 ≤ (run (World.init 3) demo).fired.length ∧
    18 ≤ ((run (World.init 3) demo).log.filter fun o => match o with | .write _ _ => true | _ => false).length := by decide +kernel

end Mqtt
