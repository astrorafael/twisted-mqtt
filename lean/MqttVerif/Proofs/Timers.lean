import MqttVerif.Proofs.Sent
/-
  A DelayedCall is never re-programmed.  `TKeep w w'`: every timer of `w`'s table has in `w'` the due time and the callback it had
  (nothing is said of its status), and identifiers stay below the counter (`TF`), so that new timers get fresh ones.  `TS`, the
  `Step.Rel` of `TStep := TF w → TKeep w w'`, holds of every handler and needs neither the invariant nor `Env`: due time and callback
  are fixed by `callLater`, and `cancel()` and the reactor move the status only.
-/
namespace Mqtt

def TF (w : World) : Prop := ∀ t tm, w.timers.get? t = some tm → t < w.nextTimer

structure TKeep (w w' : World) : Prop where
  tf : TF w'
  keep : ∀ t tm, w.timers.get? t = some tm → ∃ tm', w'.timers.get? t = some tm' ∧ tm'.due = tm.due ∧ tm'.kind = tm.kind

theorem TKeep.refl {w : World} (h : TF w) : TKeep w w := ⟨h, fun _ tm ht => ⟨tm, ht, rfl, rfl⟩⟩
theorem TKeep.trans {a b c : World} (x : TKeep a b) (y : TKeep b c) : TKeep a c :=
  ⟨y.tf, fun t tm ht => by
    obtain ⟨t1, h1, d1, k1⟩ := x.keep t tm ht
    obtain ⟨t2, h2, d2, k2⟩ := y.keep t t1 h1
    exact ⟨t2, h2, d2.trans d1, k2.trans k1⟩⟩

def TStep (w w' : World) : Prop := TF w → TKeep w w'

theorem TStep.refl (w : World) : TStep w w := TKeep.refl
theorem TStep.trans {a b c : World} (x : TStep a b) (y : TStep b c) : TStep a c := fun h => (x h).trans (y (x h).tf)

def TS : Step → Prop := Step.Rel TStep

theorem ts_closed : Step.Closed TS := Step.Rel.closed TStep.refl TStep.trans

theorem tkeep_same {w w' : World} (h : TF w) (h1 : w'.timers = w.timers) (h2 : w'.nextTimer = w.nextTimer) : TKeep w w' :=
  ⟨fun t tm ht => by rw [h2]; exact h t tm (by rw [← h1]; exact ht), fun t tm ht => ⟨tm, by rw [h1]; exact ht, rfl, rfl⟩⟩

theorem TF.fresh {w : World} (h : TF w) : w.timers.get? w.nextTimer = none := by
  cases hg : w.timers.get? w.nextTimer with
  | none => rfl
  | some tm => exact absurd (h _ _ hg) (Nat.lt_irrefl _)

theorem tkeep_of {w w' : World} (h : TF w)
    (hc : (w'.timers = w.timers ∧ w'.nextTimer = w.nextTimer) ∨ (∃ v, w'.timers = w.timers.set w.nextTimer v ∧ w'.nextTimer = w.nextTimer + 1)) :
    TKeep w w' := by
  rcases hc with ⟨h1, h2⟩ | ⟨v, h1, h2⟩
  · exact tkeep_same h h1 h2
  · refine ⟨fun t tm ht => ?_, fun t tm ht => ⟨tm, ?_, rfl, rfl⟩⟩
    · rw [h1, Dict.get?_set] at ht
      rw [h2]
      split at ht
      · rename_i he; omega
      · have := h t tm ht; omega
    · rw [h1, Dict.get?_set, if_neg (fun he => by rw [← he, h.fresh] at ht; cases ht)]
      exact ht

theorem tkeep_callLater (w : World) (h : TF w) (d : Rat) (k : TKind) : TKeep w (w.callLater d k).1 :=
  tkeep_of h (Or.inr ⟨_, rfl, rfl⟩)

theorem tkeep_status (w : World) (h : TF w) (t : Nat) (tm : Timer) (ht : w.timers.get? t = some tm) (st : TStatus) :
    TKeep w { w with timers := w.timers.set t { tm with status := st } } := by
  refine ⟨fun t' tm' ht' => ?_, fun t' tm' ht' => ?_⟩
  · simp only [Dict.get?_set] at ht'
    split at ht'
    · rename_i he; subst he; exact h t tm ht
    · exact h t' tm' ht'
  · simp only [Dict.get?_set]
    by_cases he : t = t'
    · subst he
      rw [ht] at ht'; injection ht' with ht'; subst ht'
      exact ⟨{ tm with status := st }, by rw [if_pos rfl], rfl, rfl⟩
    · exact ⟨tm', by rw [if_neg he]; exact ht', rfl, rfl⟩

theorem Sent.tkeep {p rid : Nat} {w w' : World} (s : Sent p rid w w') (h : TF w) : TKeep w w' :=
  tkeep_of h (s.timer.elim (fun ⟨h1, h2, _⟩ => Or.inl ⟨h1, h2⟩) fun ⟨_, _, h1, h2, _⟩ => Or.inr ⟨_, h1, h2⟩)

theorem ts_mod {f : World → World} (hf : ∀ w, (f w).timers = w.timers ∧ (f w).nextTimer = w.nextTimer) : TS (Step.mod f) :=
  fun w h => tkeep_same h (hf w).1 (hf w).2
theorem ts_setProto (p : Nat) (f : Proto → Proto) : TS (setProto p f) := ts_mod fun _ => ⟨rfl, rfl⟩
theorem ts_emit (o : Obs) : TS (emit o) := ts_mod fun _ => ⟨rfl, rfl⟩
theorem ts_setEnts (f : List Ent → List Ent) : TS (setEnts f) := ts_mod fun _ => ⟨rfl, rfl⟩
theorem ts_setReq (r : Nat) (f : Req → Req) : TS (setReq r f) := ts_mod fun _ => ⟨rfl, rfl⟩
theorem ts_callLater (d : Rat) (k : TKind) {c : Nat → Step} (hc : ∀ t, TS (c t)) : TS (callLater d k c) :=
  ts_closed.callLater d k (fun w h => tkeep_callLater w h d k) hc
theorem ts_newDfd {c : Nat → Step} (hc : ∀ t, TS (c t)) : TS (newDfd c) :=
  ts_closed.newDfd (fun _ => ts_mod fun _ => ⟨rfl, rfl⟩) hc
theorem ts_makeId {c : Nat → Step} (hc : ∀ t, TS (c t)) : TS (makeId c) :=
  ts_closed.makeId (fun _ => ts_mod fun _ => ⟨rfl, rfl⟩) hc
/-- not by `Step.Closed.cancelTimer`: the status is written into the timer that was just read, under its own identifier -/
theorem ts_cancelTimer (t : Nat) : TS (cancelTimer t) := by
  intro w h
  rcases cancelTimer_cases t w with e | ⟨tm, ht, _, e⟩ <;> rw [e]
  · exact TKeep.refl h
  · exact tkeep_status w h t tm ht .cancelled
theorem ts_fireDfd (d : Nat) (o : Outcome) : TS (fireDfd d o) :=
  ts_closed.fireDfd d o (ts_mod fun _ => ⟨rfl, rfl⟩) (ts_emit _)

theorem ts_sent {p rid : Nat} {f : World → World} (hf : ∀ w, Sent p rid w (f w)) : TS (Step.mod f) := fun w => (hf w).tkeep
theorem ts_refill (p : Nat) : TS (refill p) :=
  refill_of_sent TStep.refl TStep.trans p (fun _ _ h => tkeep_same h rfl rfl) fun _ _ _ => Sent.tkeep
theorem ts_syncSession (p : Nat) : TS (syncSession p) :=
  syncSession_of_sent TStep.refl TStep.trans p fun _ _ _ => Sent.tkeep

theorem ts_loopRun (p : Nat) : TS (loopRun p) :=
  ts_closed.loopRun
    (ts_closed.ping (ts_closed.doPingRequest (ts_emit _) fun _ => ts_callLater _ _ fun _ => ts_setProto _ _))
    (fun _ => ts_callLater _ _ fun _ => ts_setProto _ _) (ts_setProto _ _)

theorem ts_processPacket (p : Nat) (pkt : Bytes) : TS (processPacket p pkt) :=
  ts_closed.processPacket_prims pkt (ts_emit _) (ts_emit _) (fun _ => ts_emit _) (fun _ _ _ _ _ => ts_emit _) ts_cancelTimer
    (fun _ _ => ts_fireDfd _ _) (fun _ _ => ts_fireDfd _ _) (fun _ _ _ => ts_setEnts _) (fun _ => ts_mod fun _ => ⟨rfl, rfl⟩)
    (ts_syncSession p) (ts_refill p) (ts_loopRun p)
    (fun _ => ts_closed.handlePUBREC _ ts_cancelTimer (fun _ => ts_setEnts _) (fun _ _ _ => ts_mod fun _ => ⟨rfl, rfl⟩)
      (fun _ _ => ts_setEnts _) fun _ => ts_sent (retryReleaseW_sent p _ _))
    fun _ _ => ts_setProto _ _

theorem ts_connectionLost (p : Nat) (r : Err) : TS (connectionLost p r) :=
  ts_closed.connectionLost_prims r ts_cancelTimer (fun _ => ts_setReq _ _) (fun _ _ _ => ts_setEnts _) (fun _ => ts_setEnts _)
    (fun _ => ts_fireDfd _ _) (ts_callLater _ _ fun _ => ts_closed.ok) fun _ _ => ts_setProto _ _

theorem ts_runTimer (k : TKind) : TS (runTimer k) :=
  ts_closed.runTimer k (fun _ => ts_fireDfd _ _) (fun _ _ => ts_mod fun _ => ⟨rfl, rfl⟩) (fun _ => ts_emit _)
    (fun _ => ts_setProto _ _) ts_loopRun (fun _ => ts_setProto _ _)
    (fun q rid => ts_sent (retryPublishW_sent q rid _)) (fun q rid => ts_sent (retryReleaseW_sent q rid _))
    (fun q rid s => ts_sent (retrySubUnsubW_sent q rid _ s)) fun _ _ => ts_emit _

/-- not by `Step.Closed.fireTimer`, for the reason given at `ts_cancelTimer` -/
theorem ts_fireTimer (t : Nat) : TS (fireTimer t) := by
  intro w h
  refine fireTimer_at (Q := fun r => TKeep w r.1) t w (ts_emit _ w h) fun tm ht _ => ?_
  have k := tkeep_status w h t tm ht .called
  -- the clock moves too; `TKeep` does not look at it
  have k : TKeep w { w with now := max w.now tm.due, timers := w.timers.set t { tm with status := .called } } := ⟨k.tf, k.keep⟩
  exact k.trans (ts_runTimer _ _ k.tf)

theorem ts_registerSubUnsub (p : Nat) (s : Bool) (i : Nat) (bs : Bytes) : TS (registerSubUnsub p s i bs) :=
  ts_closed.registerSubUnsub s i bs ts_newDfd (fun _ _ _ _ => ts_mod fun _ => ⟨rfl, rfl⟩) (fun _ _ _ => ts_setEnts _)
    (fun _ => ts_sent (retrySubUnsubW_sent p _ _ s)) fun _ => ts_emit _

theorem ts_handler (op : Op) : TS op.handler := by
  cases op with
  | build a => exact ts_mod fun _ => ⟨rfl, rfl⟩
  | sethandlers p m => exact ts_setProto _ _
  | connect p a =>
    exact ts_closed.apiConnect a (fun _ => ts_emit _) (ts_setProto _ _) (fun _ _ => ts_emit _) (ts_setProto _ _)
      fun _ _ => ts_callLater _ _ fun _ => ts_newDfd fun _ =>
        ts_closed.seq (ts_mod fun _ => ⟨rfl, rfl⟩) (ts_closed.seq (ts_setProto _ _) (ts_emit _))
  | disconnect p => exact ts_closed.apiDisconnect (ts_emit _) (ts_emit _) (ts_emit _)
  | publish p t pl q r =>
    exact ts_closed.apiPublish t pl q r (fun _ => ts_emit _) (ts_emit _) (fun _ _ => ts_emit _) ts_makeId ts_newDfd fun _ _ _ _ _ =>
      ts_closed.read fun _ => ts_closed.seq (ts_mod fun _ => ⟨rfl, rfl⟩) (ts_closed.seq (ts_setEnts _) (ts_refill p))
  | subscribe p a q => exact ts_closed.apiSubscribe a q (fun _ => ts_emit _) ts_makeId (ts_registerSubUnsub p true)
  | unsubscribe p a => exact ts_closed.apiUnsubscribe a (fun _ => ts_emit _) ts_makeId (ts_registerSubUnsub p false)
  | setwin p n => exact ts_closed.apiSetWindow n (fun _ _ => ts_setProto _ _) (ts_emit _)
  | settimeout p n => exact ts_closed.apiSetTimeout n (fun _ => ts_setProto _ _) (ts_emit _)
  | setbw p b f => exact ts_closed.apiSetBandwith b f (ts_setProto _ _) (ts_emit _)
  | jit v => exact ts_mod fun _ => ⟨rfl, rfl⟩
  | setid v => exact ts_mod fun _ => ⟨rfl, rfl⟩
  | recv p d => exact ts_closed.dataReceived d (ts_processPacket p) (ts_setProto _ _) fun _ => ts_setProto _ _
  | lost p r => exact ts_connectionLost p r
  | fire t => exact ts_fireTimer t

/-- **a DelayedCall is never re-programmed** -/
theorem step_timers_keep (w : World) (h : TF w) (op : Op) : TKeep w (step w op) :=
  Step.Rel.step (R := fun w w' => TF w → TKeep w w') (ts_handler op w) (fun _ _ k h => ⟨(k h).tf, (k h).keep⟩) h

end Mqtt
