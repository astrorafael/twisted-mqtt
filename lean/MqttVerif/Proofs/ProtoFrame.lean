import MqttVerif.Proofs.Addr
import MqttVerif.Proofs.Frame
/-
  C19 / C14, C10: what an operation does to the protocol objects (state, version, buffer, window, session mode, keepalive
  objects, handlers, handshake reference, `lost`).  The only primitive that writes one is `setProto`; every handler of `p`
  calls it with `p`, and -- `setWindowSize` apart, which accepts 1..16 only -- with an update that leaves the window alone.
  `ProtoRel.step` says so once, for any transitive relation that such writes respect: with `protoRel_others`, a handler
  writes to no protocol object but the one that runs it (`step_protos`); with `protoRel_wpos` (WindowPos.lean), window
  sizes stay positive.  No invariant, no `Env`.
-/
namespace Mqtt

structure ProtoRel (p : Nat) (R : World → World → Prop) : Prop where
  trans : ∀ {a b c}, R a b → R b c → R a c
  same : ∀ {w w'}, w'.protos = w.protos → R w w'
  set : ∀ g : Proto → Proto, (∀ pr, 1 ≤ pr.window → 1 ≤ (g pr).window) → Step.Rel R (setProto p g)

namespace ProtoRel
variable {p : Nat} {R : World → World → Prop} (h : ProtoRel p R)
include h

theorem closed : Step.Closed (Step.Rel R) := Step.Rel.closed (fun _ => h.same rfl) h.trans

theorem mod {f : World → World} (hf : ∀ w, (f w).protos = w.protos) : Step.Rel R (Step.mod f) := fun w => h.same (hf w)
theorem upd (g : Proto → Proto) (hg : ∀ pr, (g pr).window = pr.window) : Step.Rel R (setProto p g) :=
  h.set g fun pr hw => (hg pr).symm ▸ hw
theorem emit (o : Obs) : Step.Rel R (emit o) := h.mod fun _ => rfl
theorem setEnts (f : List Ent → List Ent) : Step.Rel R (setEnts f) := h.mod fun _ => rfl
theorem callLater (d : Rat) (k : TKind) {c : Nat → Step} (hc : ∀ t, Step.Rel R (c t)) : Step.Rel R (callLater d k c) :=
  h.closed.callLater d k (h.mod fun _ => rfl) hc
theorem newDfd {c : Nat → Step} (hc : ∀ t, Step.Rel R (c t)) : Step.Rel R (newDfd c) :=
  h.closed.newDfd (fun _ => h.mod fun _ => rfl) hc
theorem makeId {c : Nat → Step} (hc : ∀ t, Step.Rel R (c t)) : Step.Rel R (makeId c) :=
  h.closed.makeId (fun _ => h.mod fun _ => rfl) hc
theorem cancelTimer (t : Nat) : Step.Rel R (cancelTimer t) := h.closed.cancelTimer t fun _ => h.mod fun _ => rfl
theorem fireDfd (d : Nat) (o : Outcome) : Step.Rel R (fireDfd d o) :=
  h.closed.fireDfd d o (h.mod fun _ => rfl) (h.emit _)

theorem refill (q : Nat) : Step.Rel R (refill q) := h.mod fun w => refillW_protos q false _ w
theorem syncSession (q : Nat) : Step.Rel R (syncSession q) := h.mod (syncW_protos q)

theorem loopRun : Step.Rel R (loopRun p) :=
  h.closed.loopRun
    (h.closed.ping (h.closed.doPingRequest (h.emit _) fun _ => h.callLater _ _ fun _ => h.upd _ fun _ => rfl))
    (fun _ => h.callLater _ _ fun _ => h.upd _ fun _ => rfl) (h.upd _ fun _ => rfl)

theorem processPacket (pkt : Bytes) : Step.Rel R (processPacket p pkt) :=
  have c := h.closed
  c.processPacket_prims pkt (h.emit _) (h.emit _) (fun _ => h.emit _) (fun _ _ _ _ _ => h.emit _) h.cancelTimer
    (fun _ _ => h.fireDfd _ _) (fun _ _ => h.fireDfd _ _) (fun _ _ _ => h.setEnts _) (fun _ => h.mod fun _ => rfl)
    (h.syncSession p) (h.refill p) h.loopRun
    (fun _ => c.handlePUBREC _ h.cancelTimer (fun _ => h.setEnts _) (fun _ _ _ => h.mod fun _ => rfl)
      (fun _ _ => h.setEnts _) fun _ => h.mod fun w => (retryReleaseW_sent p _ _ w).protos)
    fun _ hg => h.upd _ fun pr => (hg pr).2.2

theorem connectionLost (r : Err) : Step.Rel R (connectionLost p r) :=
  h.closed.connectionLost_prims r h.cancelTimer (fun _ => h.mod fun _ => rfl) (fun _ _ _ => h.setEnts _) (fun _ => h.setEnts _)
    (fun _ => h.fireDfd _ _) (h.callLater _ _ fun _ => h.closed.ok) fun _ hg => h.upd _ fun pr => (hg pr).2.1

theorem registerSubUnsub (s : Bool) (i : Nat) (bs : Bytes) : Step.Rel R (registerSubUnsub p s i bs) :=
  h.closed.registerSubUnsub s i bs h.newDfd (fun _ _ _ _ => h.mod fun _ => rfl) (fun _ _ _ => h.setEnts _)
    (fun _ => h.mod fun w => (retrySubUnsubW_sent p _ _ s w).protos) fun _ => h.emit _

/-- the callback of a timer of `p`, or of a handshake timeout (which writes no protocol object at all) -/
theorem runTimer (k : TKind) (hk : k.on p) : Step.Rel R (runTimer k) := by
  have c := h.closed
  cases k with
  | connack cr => exact c.runTimer_connack cr (fun _ => h.fireDfd _ _) (fun _ => h.mod fun _ => rfl) fun _ => h.emit _
  | pingLoop q =>
    cases hk
    exact c.seq (h.upd _ fun _ => rfl) h.loopRun
  | pingAlarm q =>
    cases hk
    exact c.seq (h.upd _ fun _ => rfl) (h.emit _)
  | retry q rid =>
    exact c.runTimer_retry q rid (h.mod fun w => (retryPublishW_sent q rid _ w).protos)
      (h.mod fun w => (retryReleaseW_sent q rid _ w).protos) fun s => h.mod fun w => (retrySubUnsubW_sent q rid _ s w).protos
  | onDisc q r => exact h.emit _

theorem handler (w : World) (op : Op) (hop : ∀ q, op.proto? w = some q → q = p) (hb : ∀ a, op ≠ .build a) :
    R w (op.handler w).1 := by
  have c := h.closed
  cases op with
  | build a => exact absurd rfl (hb a)
  | jit v => exact h.same rfl
  | setid v => exact h.same rfl
  | sethandlers q m =>
    obtain rfl := hop q rfl
    exact (h.upd _ fun _ => rfl : Step.Rel R (apiSetHandlers q m)) w
  | connect q a =>
    obtain rfl := hop q rfl
    exact c.apiConnect a (fun _ => h.emit _) (h.upd _ fun _ => rfl) (fun _ _ => h.emit _) (h.upd _ fun _ => rfl)
      (fun _ _ => h.callLater _ _ fun _ => h.newDfd fun _ =>
        c.seq (h.mod fun _ => rfl) (c.seq (h.upd _ fun _ => rfl) (h.emit _))) w
  | disconnect q =>
    obtain rfl := hop q rfl
    exact c.apiDisconnect (h.emit _) (h.emit _) (h.emit _) w
  | publish q t pl qs r =>
    obtain rfl := hop q rfl
    exact c.apiPublish t pl qs r (fun _ => h.emit _) (h.emit _) (fun _ _ => h.emit _) h.makeId h.newDfd
      (fun _ _ _ _ _ => c.read fun _ => c.seq (h.mod fun _ => rfl) (c.seq (h.setEnts _) (h.refill q))) w
  | subscribe q a qs =>
    obtain rfl := hop q rfl
    exact c.apiSubscribe a qs (fun _ => h.emit _) h.makeId (h.registerSubUnsub true) w
  | unsubscribe q a =>
    obtain rfl := hop q rfl
    exact c.apiUnsubscribe a (fun _ => h.emit _) h.makeId (h.registerSubUnsub false) w
  | setwin q n =>
    obtain rfl := hop q rfl
    refine c.apiSetWindow n (fun i hi => h.set _ fun _ _ => ?_) (h.emit _) w
    show 1 ≤ min i.toNat Config.maxWindow
    omega
  | settimeout q n =>
    obtain rfl := hop q rfl
    exact c.apiSetTimeout n (fun _ => h.upd _ fun _ => rfl) (h.emit _) w
  | setbw q b f =>
    obtain rfl := hop q rfl
    exact c.apiSetBandwith b f (h.upd _ fun _ => rfl) (h.emit _) w
  | recv q d =>
    obtain rfl := hop q rfl
    exact c.dataReceived d h.processPacket (h.upd _ fun _ => rfl) (fun _ => h.upd _ fun _ => rfl) w
  | lost q r =>
    obtain rfl := hop q rfl
    exact h.connectionLost r w
  | fire t =>
    refine fireTimer_at (Q := fun r => R w r.1) t w (h.emit _ w) fun tm ht _ => ?_
    have hk : tm.kind.on p := by
      simp only [Op.proto?, ht] at hop
      cases hkind : tm.kind <;> simp only [hkind] at hop
      · trivial
      all_goals exact hop _ rfl
    refine (?_ : Step.Rel R _) w
    exact c.seq (h.mod fun _ => rfl) (h.runTimer _ hk)

theorem step (w : World) (op : Op) (hop : ∀ q, op.proto? w = some q → q = p) (hb : ∀ a, op ≠ .build a) :
    R w (step w op) :=
  Step.Rel.step (h.handler w op hop hb) fun _ _ h1 => h.trans h1 (h.same rfl)

end ProtoRel

theorem protoRel_others (p : Nat) : ProtoRel p fun w w' => ∀ q, q ≠ p → w'.protos.get? q = w.protos.get? q where
  trans h1 h2 q hq := (h2 q hq).trans (h1 q hq)
  same e q _ := by rw [e]
  set g _ w q hq := by
    show (w.protos.set p _).get? q = _
    rw [Dict.get?_set, if_neg (Ne.symm hq)]

/-- **a protocol object is written by its own handlers only**: an operation run by protocol `p` -- any API call, received bytes,
    the loss report, any of its timers -- leaves every other protocol object of the factory (of the same or another address)
    exactly as it was; `buildProtocol` adds one and touches none; the handshake timeout touches none -/
theorem step_protos (w : World) (op : Op) (q : Nat)
    (hq : match op.proto? w with | some p => q ≠ p | none => (∀ a, op = .build a → q ≠ w.nextProto)) :
    (step w op).protos.get? q = w.protos.get? q := by
  by_cases hb : ∃ a, op = .build a
  · obtain ⟨a, rfl⟩ := hb
    show (w.protos.set w.nextProto _).get? q = _
    rw [Dict.get?_set, if_neg (Ne.symm (hq a rfl))]
  · cases hp : op.proto? w with
    | some p =>
      rw [hp] at hq
      exact (protoRel_others p).step w op (fun _ e => Option.some.inj (e.symm.trans hp)) (fun a e => hb ⟨a, e⟩) q hq
    | none =>
      -- run by no protocol at all, the operation is run by none other than `q + 1`
      exact (protoRel_others (q + 1)).step w op (fun _ e => nomatch e.symm.trans hp) (fun a e => hb ⟨a, e⟩) q (by omega)

end Mqtt
