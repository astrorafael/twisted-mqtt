import MqttVerif.Model.Pdu
import MqttVerif.Proofs.Prim
/-
  The packet classes of pdu.py (C01). Every encoder produces a `frame`; per class there is the encoder's
  normal form on valid fields (`X.encode_eq`) and the decoder on a frame (`X.decode_frame`); a round trip
  (Props/C01.lean) is the two put together.
-/
namespace Mqtt

/-- the layout of every control packet -/
def frame (h : Nat) (b : Bytes) : Bytes := [h] ++ encodeLength b.length ++ b

theorem frame_WF {h : Nat} {b : Bytes} (hh : h < 256) (hb : b.WF) : (frame h b).WF :=
  WF_append (WF_cons hh (encodeLength_WF _)) hb

/-- the encoders compute the length from variable header and payload separately -/
theorem frame_append (h : Nat) (a b : Bytes) :
    [h] ++ encodeLength (a.length + b.length) ++ a ++ b = frame h (a ++ b) := by
  rw [frame, List.length_append, List.append_assoc]

theorem skipLen_encodeLength (n : Nat) (rest : Bytes) : skipLen (encodeLength n ++ rest) = .ok rest := by
  induction n using Nat.strongRecOn with
  | ind n ih =>
    rw [encodeLength_eq]
    by_cases h : n < 128
    · simp [h, skipLen, and128_small n h]
    · simp only [h, ↓reduceIte, List.cons_append, skipLen, and128_big _ (Nat.mod_lt n (by decide))]
      exact ih (n / 128) (by omega)

theorem body_frame (h : Nat) (b : Bytes) : body (frame h b) = .ok b :=
  skipLen_encodeLength b.length b

theorem first_frame (h : Nat) (b : Bytes) : first (frame h b) = .ok h := rfl

/-- one step of a monadic program whose value is known: `refine (bind_val h _).trans ?_` goes on with the rest
    applied to that value, without unfolding what comes after -/
theorem bind_val {m : Type → Type} [Monad m] [LawfulMonad m] {α β} {x : m α} {a : α} (h : x = pure a) (k : α → m β) :
    x >>= k = k a := by
  rw [h, pure_bind]

/-! ## the five identifier-only acknowledgements -/

theorem encodeAck_eq (hdr m : Nat) (hm : m < 65536) : encodeAck hdr (m : Int) = .ok (frame hdr (enc16 m)) := by
  unfold encodeAck
  rw [encode16_ok m hm]
  rfl

theorem decodeAck_frame (h m : Nat) : decodeAck (frame h (enc16 m)) = .ok m := by
  unfold decodeAck
  rw [body_frame]
  exact decode16_enc16_nil m

theorem decodePUBREL_frame (h m : Nat) : decodePUBREL (frame h (enc16 m)) = .ok (m, (h &&& 0x08) == 0x08) := by
  unfold decodePUBREL
  rw [body_frame, first_frame]
  simp only [ok_bind, decode16_enc16_nil, pure_ok]

theorem decodeAck_encodeAck (hdr : Nat) (hh : hdr < 256) (m : Nat) (hm : m < 65536) :
    ∃ bs, encodeAck hdr (m : Int) = .ok bs ∧ bs.WF ∧ decodeAck bs = .ok m :=
  ⟨_, encodeAck_eq hdr m hm, frame_WF hh (enc16_WF m hm), decodeAck_frame hdr m⟩

/-! ## CONNACK -/

theorem b2n_lt (b : Bool) : b2n b < 256 := by
  cases b <;> decide

theorem b2n_and1 (b : Bool) : ((b2n b &&& 0x01) == 0x01) = b := by
  cases b <;> decide

theorem ConnackF.encode_eq (f : ConnackF) (h : f.resultCode < 256) :
    f.encode = .ok (frame 0x20 [b2n f.session, f.resultCode]) := by
  unfold ConnackF.encode byte
  rw [if_pos (b2n_lt _), if_pos h]
  rfl

theorem ConnackF.decode_frame (h a rc : Nat) : ConnackF.decode (frame h [a, rc]) = .ok ⟨(a &&& 0x01) == 0x01, rc⟩ := by
  unfold ConnackF.decode
  rw [body_frame]
  rfl

/-! ## identifier, then a payload with a codec of its own: SUBSCRIBE, UNSUBSCRIBE, SUBACK -/

theorem idPayload_encode (h m : Nat) (hm : m < 65536) {E : Except Err Bytes} {pb : Bytes} (he : E = .ok pb) :
    (do let varHeader ← encode16Int (m : Int)
        let payload ← E
        pure ([h] ++ encodeLength (varHeader.length + payload.length) ++ varHeader ++ payload)) =
      .ok (frame h (enc16 m ++ pb)) := by
  rw [encode16_ok m hm, he, ← frame_append]
  rfl

/-- the fuel the decoders give their loop is the length of the whole body -/
theorem idPayload_decode {α β} (D : Nat → Bytes → Except Err α) (mk : Nat → α → β) (h m : Nat) (pb : Bytes) (a : α)
    (hd : D (enc16 m ++ pb).length pb = .ok a) :
    (do let r ← body (frame h (enc16 m ++ pb))
        let msgId ← decode16Int (r.take 2)
        let x ← D r.length (r.drop 2)
        pure (mk msgId x)) = .ok (mk m a) := by
  rw [body_frame]
  simp only [ok_bind, decode16_take, decode16_enc16, enc16_drop, hd, pure_ok]

/-! ### SUBACK -/

/-- granted entries a SUBACK can carry: the QoS part fits in 7 bits -/
def GrantedValid (g : List (Nat × Bool)) : Prop := ∀ p ∈ g, p.1 < 128

theorem or_flag_lt (q : Nat) (fl : Bool) (h : q < 128) : (q ||| (if fl then 0x80 else 0x00)) < 256 := by
  cases fl
  · simp
    omega
  · simp only [↓reduceIte]
    rw [or128 q h]
    omega

theorem or_flag_decode (q : Nat) (fl : Bool) (h : q < 128) :
    (((q ||| (if fl then 0x80 else 0x00)) &&& 0x7F), ((q ||| (if fl then 0x80 else 0x00)) &&& 0x80) == 0x80) = (q, fl) := by
  cases fl
  · simp [and127, and128_small q h]
    omega
  · simp only [↓reduceIte]
    rw [or128 q h, and127_big q h, and128_big q h]
    simp

theorem encGranted_ok (g : List (Nat × Bool)) (h : GrantedValid g) :
    ∃ bs, encGranted g = .ok bs ∧ bs.WF ∧ bs.map (fun b => (b &&& 0x7F, (b &&& 0x80) == 0x80)) = g := by
  induction g with
  | nil => exact ⟨[], rfl, WF_nil, rfl⟩
  | cons p t ih =>
    obtain ⟨q, fl⟩ := p
    have hq : q < 128 := h (q, fl) (by simp)
    obtain ⟨bs, he, hw, hm⟩ := ih (fun p hp => h p (by simp [hp]))
    refine ⟨(q ||| (if fl then 0x80 else 0x00)) :: bs, ?_, WF_cons (or_flag_lt q fl hq) hw, ?_⟩
    · unfold encGranted byte
      simp [or_flag_lt q fl hq, he]
    · simp only [List.map_cons, hm, or_flag_decode q fl hq]

theorem SubackF.decode_frame (h m : Nat) (gb : Bytes) :
    SubackF.decode (frame h (enc16 m ++ gb)) = .ok ⟨m, gb.map fun b => (b &&& 0x7F, (b &&& 0x80) == 0x80)⟩ := by
  unfold SubackF.decode
  rw [body_frame]
  simp only [ok_bind, decode16_enc16, enc16_drop, pure_ok]

/-! ### SUBSCRIBE -/

def TopicsQValid (ts : List (String × Nat)) : Prop := ∀ p ∈ ts, p.1.utf8ByteSize ≤ 65535 ∧ p.2 < 4

theorem and3 (q : Nat) (h : q < 4) : q &&& 0x03 = q := by
  have : ∀ x : Fin 4, x.val &&& 0x03 = x.val := by decide
  exact this ⟨q, h⟩

theorem encTopicsQ_ok (ts : List (String × Nat)) (h : TopicsQValid ts) :
    ∃ bs, encTopicsQ ts = .ok bs ∧ bs.WF ∧ ∀ fuel, bs.length ≤ fuel → decTopicsQ fuel bs = .ok ts := by
  induction ts with
  | nil => exact ⟨[], rfl, WF_nil, fun fuel _ => by cases fuel <;> rfl⟩
  | cons p t ih =>
    obtain ⟨s, q⟩ := p
    have hp := h (s, q) (by simp)
    obtain ⟨bs, he, hw, hd⟩ := ih (fun p hp => h p (by simp [hp]))
    refine ⟨encS s ++ [q] ++ bs, ?_, ?_, ?_⟩
    · unfold encTopicsQ byte
      have : q < 256 := by omega
      simp [encodeString_ok s hp.1, this, he]
    · exact WF_append (WF_append (encS_WF s hp.1) (WF_cons (by omega) WF_nil)) hw
    · intro fuel hlen
      cases fuel with
      | zero => simp at hlen
      | succ f =>
        simp only [List.length_append, encS_length, List.length_cons, List.length_nil] at hlen
        unfold decTopicsQ
        simp only [List.append_assoc, decodeString_encS, ok_bind]
        simp only [List.cons_append, List.nil_append, first, ok_bind, List.drop_succ_cons, List.drop_zero]
        rw [hd f (by omega)]
        simp [and3 q hp.2]

/-! ### UNSUBSCRIBE -/

def TopicsValid (ts : List String) : Prop := ∀ t ∈ ts, t.utf8ByteSize ≤ 65535

theorem encTopics_ok (ts : List String) (h : TopicsValid ts) :
    ∃ bs, encTopics ts = .ok bs ∧ bs.WF ∧ ∀ fuel, bs.length ≤ fuel → decTopics fuel bs = .ok ts := by
  induction ts with
  | nil => exact ⟨[], rfl, WF_nil, fun fuel _ => by cases fuel <;> rfl⟩
  | cons s t ih =>
    have hp := h s (by simp)
    obtain ⟨bs, he, hw, hd⟩ := ih (fun p hp => h p (by simp [hp]))
    refine ⟨encS s ++ bs, ?_, WF_append (encS_WF s hp) hw, ?_⟩
    · unfold encTopics
      simp [encodeString_ok s hp, he]
    · intro fuel hlen
      cases fuel with
      | zero => simp at hlen
      | succ f =>
        simp only [List.length_append, encS_length] at hlen
        unfold decTopics
        have hne : ¬ ((encS s ++ bs).length == 0) = true := by simp
        simp only [hne, Bool.false_eq_true, ↓reduceIte, decode16_take, decode16_encS, ok_bind, encS_body,
          fromUtf8_utf8, encS_rest]
        rw [hd f (by omega)]
        rfl

/-! ## PUBLISH -/

/-- the valid field assignments of a PUBLISH: QoS 0..2, DUP and packet id only with QoS > 0,
    16-bit id, topic of at most 65535 bytes, payload a str or a bytearray, total length within
    the protocol limit -/
structure PublishF.Valid (f : PublishF) : Prop where
  qos : f.qos < 3
  topic : f.topic.utf8ByteSize ≤ 65535
  noId : f.qos = 0 → f.msgId = none ∧ f.dup = false
  id : f.qos ≠ 0 → ∃ m : Nat, f.msgId = some (m : Int) ∧ m < 65536
  payload : f.payload ≠ .other
  total : 2 + f.topic.utf8ByteSize + (if f.qos = 0 then 0 else 2) + f.payload.bytes.length ≤ 268435455

/-- what decoding gives back: string payloads as their UTF-8 bytes -/
def PublishF.norm (f : PublishF) : PublishD :=
  { topic := f.topic, payload := f.payload.bytes, qos := f.qos, dup := f.dup, retain := f.retain,
    msgId := f.msgId.map Int.toNat }

/-- the packet identifier in the variable header: absent at QoS 0 -/
def encId : Option Nat → Bytes
  | none => []
  | some m => enc16 m

/-- the first byte of a PUBLISH, as the standard counts it and as the decoder takes it apart -/
theorem pubHeader (retain dup : Bool) (q : Nat) (hq : q < 3) :
    let h := 0x30 ||| b2n retain ||| (q <<< 1) ||| (b2n dup <<< 3)
    h = 3 * 16 + (b2n dup * 8 + q * 2 + b2n retain) ∧ h < 256 ∧
      ((h &&& 0x08) == 0x08) = dup ∧ ((h &&& 0x06) >>> 1) = q ∧ ((h &&& 0x01) == 0x01) = retain := by
  have : q = 0 ∨ q = 1 ∨ q = 2 := by omega
  revert retain dup
  rcases this with rfl | rfl | rfl <;> decide +kernel

theorem toBytes_ok (p : Payload) (h : p ≠ .other) : p.toBytes = .ok p.bytes := by
  cases p <;> first | rfl | exact absurd rfl h

theorem PublishF.encode_eq (f : PublishF) (hv : f.Valid) :
    f.encode = .ok (frame (0x30 ||| b2n f.retain ||| (f.qos <<< 1) ||| (b2n f.dup <<< 3))
      (encS f.topic ++ (encId (f.msgId.map Int.toNat) ++ f.payload.bytes))) := by
  obtain ⟨topic, payload, qos, dup, retain, msgId⟩ := f
  obtain ⟨hq, ht, hn, hi, hp, htot⟩ := hv
  simp only at hq ht hn hi hp htot
  unfold PublishF.encode byte
  simp only [toBytes_ok payload hp, encodeString_ok topic ht, ok_bind, pure_ok, (pubHeader retain dup qos hq).2.1]
  by_cases h0 : qos = 0
  · subst h0
    obtain ⟨rfl, rfl⟩ := hn rfl
    have : ¬ (encS topic).length + payload.bytes.length > 268435455 := by
      simpa using htot
    simp only [bne_self_eq_false, Bool.false_eq_true, ↓reduceIte, this, frame_append]
    simp only [Option.map_none, encId, List.nil_append, Nat.zero_shiftLeft, Nat.or_zero, show b2n false <<< 3 = 0 from rfl]
  · obtain ⟨m, rfl, hm⟩ := hi h0
    have : ¬ (encS topic ++ enc16 m).length + payload.bytes.length > 268435455 := by
      simp only [h0, ↓reduceIte] at htot
      simpa using htot
    have hne : (qos != 0) = true := by
      simp [h0]
    simp only [hne, ↓reduceIte, encode16_ok m hm, ok_bind, this, frame_append]
    rw [List.append_assoc]
    rfl

theorem PublishD.decode_frame (h : Nat) (topic : String) (id : Option Nat) (payload : Bytes)
    (hid : ((h &&& 0x06) >>> 1 != 0) = id.isSome) :
    PublishD.decode (frame h (encS topic ++ (encId id ++ payload))) =
      .ok ⟨topic, payload, (h &&& 0x06) >>> 1, (h &&& 0x08) == 0x08, (h &&& 0x01) == 0x01, id⟩ := by
  unfold PublishD.decode
  rw [body_frame, first_frame]
  simp only [ok_bind, decodeString_encS, decode16_encS, hid, Nat.add_comm _ 2]
  cases id with
  | none => simp only [encId, Option.isSome_none, Bool.false_eq_true, ↓reduceIte, List.nil_append, encS_rest, pure_ok]
  | some m =>
    have : 2 + (2 + topic.utf8ByteSize) = (encS topic ++ enc16 m).length := by
      simp
      omega
    simp only [encId, Option.isSome_some, ↓reduceIte, encS_rest, decode16_take, decode16_enc16, ok_bind, pure_ok, this]
    rw [← List.append_assoc, List.drop_left]

/-! ## CONNECT -/

/-- the connect flags byte, as the standard counts it and as the decoder takes it apart -/
theorem ConnectF.flags_facts (f : ConnectF) (h : f.willQoS < 3) :
    f.flags = b2n f.cleanStart * 2 + (if f.hasWill then 4 + f.willQoS * 8 + b2n f.willRetain * 32 else 0)
        + b2n f.password.isSome * 64 + b2n f.username.isSome * 128 ∧
      f.flags < 256 ∧ ((f.flags &&& 0x02) != 0) = f.cleanStart ∧ ((f.flags &&& 0x04) != 0) = f.hasWill ∧
      (f.hasWill = true → (f.flags >>> 3) &&& 0x03 = f.willQoS ∧ ((f.flags &&& 0x20) != 0) = f.willRetain) ∧
      ((f.flags &&& 0x80) != 0) = f.username.isSome ∧ ((f.flags &&& 0x40) != 0) = f.password.isSome := by
  unfold ConnectF.flags
  obtain ⟨wq, hwq⟩ : ∃ wq : Fin 3, f.willQoS = wq.val := ⟨⟨_, h⟩, rfl⟩
  rw [hwq]
  generalize f.cleanStart = cs, f.hasWill = hw, f.willRetain = wr, f.username.isSome = u, f.password.isSome = p
  clear hwq
  revert cs hw wr u p wq
  decide +kernel

def optSize : Option String → Nat
  | none => 0
  | some s => s.utf8ByteSize

/-- the valid field assignments of a CONNECT (what `_checkConnect` plus the encoder accept) -/
structure ConnectF.Valid (f : ConnectF) : Prop where
  version : f.version = v31 ∨ f.version = v311
  keepalive : 0 ≤ f.keepalive ∧ f.keepalive < 65536
  clientId : f.clientId.utf8ByteSize ≤ 65535
  willQoS : f.willQoS < 3
  will : f.willTopic.isSome = f.willMessage.isSome
  sizes : optSize f.willTopic ≤ 65535 ∧ optSize f.willMessage ≤ 65535 ∧ optSize f.username ≤ 65535 ∧
    optSize f.password ≤ 65535

/-- what decoding gives back: will QoS/retain only with a will, the password as its UTF-8 bytes -/
def ConnectF.norm (f : ConnectF) : ConnectD :=
  { clientId := f.clientId, keepalive := f.keepalive.toNat,
    willTopic := f.willTopic, willMessage := f.willMessage,
    willQoS := if f.hasWill then some f.willQoS else none,
    willRetain := if f.hasWill then some f.willRetain else none,
    username := f.username, password := f.password.map utf8,
    cleanStart := f.cleanStart, version := f.version }

def encOpt : Option String → Bytes
  | none => []
  | some s => encS s

theorem encOpt_some (s : String) : encOpt (some s) = encS s := rfl
theorem encOpt_none : encOpt none = [] := rfl

theorem encOptString_ok (o : Option String) (h : optSize o ≤ 65535) : encOptString o = .ok (encOpt o) := by
  cases o with
  | none => rfl
  | some s => exact encodeString_ok s h

theorem encOpt_WF (o : Option String) (h : optSize o ≤ 65535) : (encOpt o).WF := by
  cases o with
  | none => exact WF_nil
  | some s => exact encS_WF s h

theorem version_facts (v : Version) (h : v = v31 ∨ v = v311) :
    v.tag.utf8ByteSize ≤ 65535 ∧ v.level < 256 ∧ (if v.level == v31.level then v31 else v311) = v := by
  rcases h with rfl | rfl <;> decide

/-- variable header and payload of a CONNECT, right-nested -/
def ConnectF.body (f : ConnectF) : Bytes :=
  encS f.version.tag ++ ([f.version.level] ++ ([f.flags] ++ (enc16 f.keepalive.toNat ++
    (encS f.clientId ++ ((if f.hasWill = true then encOpt f.willTopic ++ encOpt f.willMessage else []) ++
      (encOpt f.username ++ encOpt f.password))))))

theorem ConnectF.encode_eq (f : ConnectF) (hv : f.Valid) : f.encode = .ok (frame 0x10 f.body) := by
  obtain ⟨hver, hka, hcid, hwq, hwill, hwt, hwm, hu, hp⟩ := hv
  obtain ⟨htag, hlvl, -⟩ := version_facts f.version hver
  unfold ConnectF.encode byte
  simp only [encodeString_ok _ htag, hlvl, (f.flags_facts hwq).2.1, encode16_ok' _ hka.1 hka.2, encodeString_ok _ hcid,
    encOptString_ok _ hwt, encOptString_ok _ hwm, encOptString_ok _ hu, encOptString_ok _ hp, ↓reduceIte, ok_bind,
    pure_ok, frame_append]
  split <;> simp only [ConnectF.body, List.append_assoc, List.nil_append, Bool.false_eq_true, ↓reduceIte, *]

theorem ConnectF.body_WF (f : ConnectF) (hv : f.Valid) : f.body.WF := by
  obtain ⟨hver, hka, hcid, hwq, hwill, hwt, hwm, hu, hp⟩ := hv
  obtain ⟨htag, hlvl, -⟩ := version_facts f.version hver
  simp only [ConnectF.body, List.singleton_append]
  refine WF_append (encS_WF _ htag) (WF_cons hlvl (WF_cons (f.flags_facts hwq).2.1 (WF_append (enc16_WF _ (by omega))
    (WF_append (encS_WF _ hcid) (WF_append ?_ (WF_append (encOpt_WF _ hu) (encOpt_WF _ hp)))))))
  split
  · exact WF_append (encOpt_WF _ hwt) (encOpt_WF _ hwm)
  · exact WF_nil

/-! The three optional parts of CONNECT.decode, each with the rest of the decoder as the parameter `k`: when the
    flag `c` tells whether the field is there, the part hands on the field and the bytes after it. -/

theorem ConnectD.willPart {β} (c : Bool) (wt wm : Option String) (hc : c = (wt.isSome && wm.isSome))
    (hw : wt.isSome = wm.isSome) (q : Nat) (b : Bool) (rest : Bytes)
    (k : Option Nat × Option Bool × Option String × Option String × Bytes → Except Err β) :
    (do let x ← if c then do
            let (t, r) ← decodeString ((if wt.isSome && wm.isSome then encOpt wt ++ encOpt wm else []) ++ rest)
            let (m, r) ← decodeString r
            pure (some q, some b, some t, some m, r)
          else pure (none, none, none, none, (if wt.isSome && wm.isSome then encOpt wt ++ encOpt wm else []) ++ rest)
        k x) =
      k (if c then some q else none, if c then some b else none, wt, wm, rest) := by
  subst hc
  rcases wt with _ | t <;> rcases wm with _ | m <;> simp at hw
  · rfl
  · simp only [encOpt, Option.isSome_some, Bool.and_self, ↓reduceIte, List.append_assoc, decodeString_encS, ok_bind,
      pure_ok]

theorem ConnectD.userPart {β} (c : Bool) (o : Option String) (hc : c = o.isSome) (rest : Bytes)
    (k : Option String × Bytes → Except Err β) :
    (do let x ← if c then do
            let (u, r) ← decodeString (encOpt o ++ rest)
            pure (some u, r)
          else pure (none, encOpt o ++ rest)
        k x) = k (o, rest) := by
  subst hc
  cases o with
  | none => rfl
  | some s => simp only [encOpt, Option.isSome_some, ↓reduceIte, decodeString_encS, ok_bind, pure_ok]

/-- the password is sliced out as bytes, not decoded -/
theorem ConnectD.passPart {β} (c : Bool) (o : Option String) (hc : c = o.isSome) (k : Option Bytes → Except Err β) :
    (do let pass ← if c then do
            let l ← decode16Int (encOpt o)
            pure (some (((encOpt o).drop 2).take l))
          else pure none
        k pass) = k (o.map utf8) := by
  subst hc
  cases o with
  | none => rfl
  | some s =>
    have h1 := decode16_encS s []
    have h2 := encS_body s []
    rw [List.append_nil] at h1 h2
    simp only [encOpt, Option.isSome_some, ↓reduceIte, h1, ok_bind, h2, pure_ok, Option.map_some]

theorem ConnectD.decode_frame (h : Nat) (f : ConnectF) (hv : f.Valid) :
    ConnectD.decode (frame h f.body) = .ok f.norm := by
  obtain ⟨-, -, hvdec⟩ := version_facts f.version hv.version
  obtain ⟨-, -, hcs, hhw, hwd, hud, hpd⟩ := f.flags_facts hv.willQoS
  unfold ConnectD.decode
  refine (bind_val (body_frame h f.body) _).trans ?_
  refine (bind_val (decodeString_encS _ _) _).trans ?_
  refine (bind_val (a := f.version.level) rfl _).trans ?_
  refine (bind_val (a := f.flags) rfl _).trans ?_
  refine (bind_val (decode16_enc16 f.keepalive.toNat _) _).trans ?_
  refine (bind_val (decodeString_encS f.clientId _) _).trans ?_
  refine (ConnectD.willPart _ _ _ hhw hv.will _ _ _ _).trans ?_
  refine (ConnectD.userPart _ _ hud _ _).trans ?_
  refine (ConnectD.passPart _ _ hpd _).trans ?_
  simp only [pure_ok, ConnectF.norm, hvdec, hcs, hhw]
  by_cases hw : f.hasWill = true
  · simp only [hw, ↓reduceIte, hwd hw]
  · simp only [hw, Bool.false_eq_true, ↓reduceIte]

end Mqtt
