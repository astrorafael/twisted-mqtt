import MqttVerif.Proofs.Session3
/-
  FIFO order of the queue of held-back publishes (C10): the sequence numbers (order of the publish() calls) of the messages
  held back for an address are strictly increasing along the queue and below the counter, so the head -- which is what
  `_refillPublish` launches -- is the oldest, and everything published later is younger than everything queued.
  `QStep w w'` summarises what a transition may do to the queues: drop elements and append freshly numbered ones.
-/
namespace Mqtt

/-- the publish() sequence numbers of the messages held back for address `a`, in queue order -/
def QSeqs (w : World) (a : Nat) : List Nat := (Ents.items w.ents a .queue).map fun e => (w.req e.rid).seq

def Fifo (w : World) : Prop := ∀ a, (QSeqs w a).Pairwise (· < ·) ∧ ∀ s ∈ QSeqs w a, s < w.nextSeq

structure QStep (w w' : World) : Prop where
  mono : w.nextSeq ≤ w'.nextSeq
  sub : ∀ a, (QSeqs w' a).Sublist (QSeqs w a ++ List.range' w.nextSeq (w'.nextSeq - w.nextSeq))

theorem QStep.refl (w : World) : QStep w w := ⟨Nat.le_refl _, fun a => by simp⟩

theorem range'_append_sub (a b c : Nat) (h1 : a ≤ b) (h2 : b ≤ c) :
    List.range' a (b - a) ++ List.range' b (c - b) = List.range' a (c - a) := by
  have : c - a = (b - a) + (c - b) := by omega
  rw [this, ← List.range'_append_1]
  congr 2
  omega

theorem QStep.trans {w1 w2 w3 : World} (x : QStep w1 w2) (y : QStep w2 w3) : QStep w1 w3 := by
  refine ⟨Nat.le_trans x.mono y.mono, fun a => ?_⟩
  have h1 := y.sub a
  have h2 := (x.sub a).append_right (List.range' w2.nextSeq (w3.nextSeq - w2.nextSeq))
  rw [List.append_assoc, range'_append_sub _ _ _ x.mono y.mono] at h2
  exact h1.trans h2

theorem Fifo.step {w w' : World} (h : Fifo w) (q : QStep w w') : Fifo w' := by
  intro a
  obtain ⟨hs, hb⟩ := h a
  have hbig : (QSeqs w a ++ List.range' w.nextSeq (w'.nextSeq - w.nextSeq)).Pairwise (· < ·) := by
    rw [List.pairwise_append]
    refine ⟨hs, List.pairwise_lt_range', fun x hx y hy => ?_⟩
    have := hb x hx
    have := (List.mem_range'_1.mp hy).1
    omega
  refine ⟨hbig.sublist (q.sub a), fun s hs' => ?_⟩
  have hm := (q.sub a).subset hs'
  rcases List.mem_append.mp hm with hm | hm
  · exact Nat.lt_of_lt_of_le (hb s hm) q.mono
  · have := (List.mem_range'_1.mp hm).2
    have := q.mono
    omega

theorem qstep_same {w w' : World} (hn : w'.nextSeq = w.nextSeq) (hq : ∀ a, QSeqs w' a = QSeqs w a) : QStep w w' :=
  ⟨by rw [hn]; exact Nat.le_refl _, fun a => by rw [hq a, hn]; simp⟩

theorem Ents.items_append (es : List Ent) (e : Ent) (a : Nat) (b : Box) :
    Ents.items (es ++ [e]) a b = Ents.items es a b ++ (if e.addr = a ∧ e.box = b then [e] else []) := by
  induction es with
  | nil => simp [Ents.items]
  | cons x r ih =>
    simp only [List.cons_append, Ents.items]
    split <;> simp [ih]

theorem Ents.items_remove_other (es : List Ent) (a : Nat) (b : Box) (k : Nat) (a' : Nat) (b' : Box) (hb : b ≠ b') :
    Ents.items (Ents.remove es a b k) a' b' = Ents.items es a' b' := by
  induction es with
  | nil => rfl
  | cons x r ih =>
    simp only [Ents.remove]
    split
    · rename_i hx
      simp only [Ents.items]
      rw [if_neg (fun hc => hb (hx.2.1.symm.trans hc.2))]
    · simp only [Ents.items, ih]

theorem Ents.items_insert_other (es : List Ent) (a : Nat) (b : Box) (k rid : Nat) (a' : Nat) (b' : Box) (hb : b ≠ b') :
    Ents.items (Ents.insert es a b k rid) a' b' = Ents.items es a' b' := by
  induction es with
  | nil => simp [Ents.insert, Ents.items, hb]
  | cons x r ih =>
    simp only [Ents.insert]
    split
    · rename_i hx
      simp only [Ents.items]
      rw [if_neg (fun hc => hb hc.2), if_neg (fun hc => hb (hx.2.1.symm.trans hc.2))]
    · simp only [Ents.items, ih]

theorem Ents.items_dropFirst (es : List Ent) (a : Nat) (b : Box) (a' : Nat) (b' : Box) :
    Ents.items (Ents.dropFirst es a b) a' b' = if a = a' ∧ b = b' then (Ents.items es a' b').tail else Ents.items es a' b' := by
  induction es with
  | nil => simp [Ents.dropFirst, Ents.items]
  | cons x r ih =>
    simp only [Ents.dropFirst]
    split
    · rename_i hx
      simp only [Ents.items]
      by_cases hc : a = a' ∧ b = b'
      · obtain ⟨rfl, rfl⟩ := hc
        simp [hx]
      · rw [if_neg hc, if_neg (fun h2 => hc ⟨hx.1.symm.trans h2.1, hx.2.symm.trans h2.2⟩)]
    · rename_i hx
      simp only [Ents.items, ih]
      by_cases hc : a = a' ∧ b = b'
      · obtain ⟨rfl, rfl⟩ := hc
        simp [hx]
      · simp only [hc, ↓reduceIte]

theorem Ents.items_remove_sublist (es : List Ent) (a : Nat) (b : Box) (k : Nat) (a' : Nat) (b' : Box) :
    (Ents.items (Ents.remove es a b k) a' b').Sublist (Ents.items es a' b') := by
  induction es with
  | nil => exact List.Sublist.refl _
  | cons x r ih =>
    simp only [Ents.remove]
    split
    · simp only [Ents.items]
      split
      · exact List.sublist_cons_self _ _
      · exact List.Sublist.refl _
    · simp only [Ents.items]
      split
      · exact ih.cons_cons _
      · exact ih

structure QSame (w w' : World) : Prop where
  ents : w'.ents = w.ents
  nextSeq : w'.nextSeq = w.nextSeq
  seq : ∀ r, (w'.req r).seq = (w.req r).seq

theorem QSame.refl (w : World) : QSame w w := ⟨rfl, rfl, fun _ => rfl⟩
theorem QSame.trans {a b c : World} (x : QSame a b) (y : QSame b c) : QSame a c :=
  ⟨by rw [y.ents, x.ents], by rw [y.nextSeq, x.nextSeq], fun r => by rw [y.seq, x.seq]⟩
theorem QSame.qstep {w w' : World} (h : QSame w w') : QStep w w' :=
  qstep_same h.nextSeq fun a => by simp only [QSeqs, h.ents, h.seq]

theorem qstep_sublist {w w' : World} (hr : w'.reqs = w.reqs) (hn : w'.nextSeq = w.nextSeq)
    (hs : ∀ a, (Ents.items w'.ents a .queue).Sublist (Ents.items w.ents a .queue)) : QStep w w' := by
  refine ⟨by rw [hn]; exact Nat.le_refl _, fun a => ?_⟩
  rw [hn]; simp only [Nat.sub_self, List.range'_zero, List.append_nil]
  have : ∀ r, w'.req r = w.req r := fun r => by simp [World.req, hr]
  simp only [QSeqs, this]
  exact (hs a).map _

def QS (s : Step) : Prop := ∀ w, QStep w (s w).1

theorem qs_closed : Step.Closed QS := Step.Rel.closed QStep.refl QStep.trans

theorem qs_mod {f : World → World} (hf : ∀ w, QSame w (f w)) : QS (Step.mod f) := fun w => (hf w).qstep
theorem qs_setProto (p : Nat) (f : Proto → Proto) : QS (setProto p f) := qs_mod fun _ => ⟨rfl, rfl, fun _ => rfl⟩
theorem qs_emit (o : Obs) : QS (emit o) := qs_mod fun _ => ⟨rfl, rfl, fun _ => rfl⟩
theorem qs_callLater (d : Rat) (k : TKind) {c : Nat → Step} (hc : ∀ t, QS (c t)) : QS (callLater d k c) :=
  qs_closed.callLater d k (qs_mod fun _ => ⟨rfl, rfl, fun _ => rfl⟩) hc
theorem qs_newDfd {c : Nat → Step} (hc : ∀ t, QS (c t)) : QS (newDfd c) :=
  qs_closed.newDfd (fun _ => qs_mod fun _ => ⟨rfl, rfl, fun _ => rfl⟩) hc
theorem qs_cancelTimer (t : Nat) : QS (cancelTimer t) := qs_closed.cancelTimer t fun _ => qs_mod fun _ => ⟨rfl, rfl, fun _ => rfl⟩
theorem qs_fireDfd (d : Nat) (o : Outcome) : QS (fireDfd d o) :=
  qs_closed.fireDfd d o (qs_mod fun _ => ⟨rfl, rfl, fun _ => rfl⟩) (qs_emit _)
theorem qs_setEnts_remove (a : Nat) (b : Box) (k : Nat) : QS (setEnts fun es => Ents.remove es a b k) :=
  fun w => qstep_sublist rfl rfl fun a' => Ents.items_remove_sublist w.ents a b k a' .queue
theorem qs_setEnts_dropFirst (a : Nat) (b : Box) : QS (setEnts fun es => Ents.dropFirst es a b) := by
  intro w
  refine qstep_sublist rfl rfl fun a' => ?_
  show (Ents.items (Ents.dropFirst w.ents a b) a' .queue).Sublist _
  rw [Ents.items_dropFirst]
  split
  · exact List.tail_sublist _
  · exact List.Sublist.refl _
theorem qs_setEnts_insert (a : Nat) (b : Box) (k rid : Nat) (hb : b ≠ .queue) : QS (setEnts fun es => Ents.insert es a b k rid) := by
  intro w
  refine qstep_sublist rfl rfl fun a' => ?_
  show (Ents.items (Ents.insert w.ents a b k rid) a' .queue).Sublist _
  rw [Ents.items_insert_other _ _ _ _ _ _ _ hb]
  exact List.Sublist.refl _
theorem qs_setReq (r : Nat) (f : Req → Req) (hf : ∀ x, (f x).seq = x.seq) : QS (setReq r f) := by
  refine qs_mod fun w => ⟨rfl, rfl, fun r' => ?_⟩
  rw [req_setReq]
  split
  · rename_i h; subst h; exact hf _
  · rfl

theorem Sent.qsame {p rid : Nat} {w w' : World} (h : Sent p rid w w') : QSame w w' := by
  refine ⟨h.ents, h.nextSeq, fun r => ?_⟩
  by_cases hr : rid = r
  · subst hr
    exact h.kept.2.2.2.2.1
  · rw [h.req_of_ne hr]

theorem qs_syncSession (p : Nat) : QS (syncSession p) :=
  syncW_rel QStep.refl QStep.trans p (fun w rid => (retryReleaseW_sent p rid true w).qsame.qstep)
    fun w rid => (retryPublishW_sent p rid true w).qsame.qstep

theorem qs_refill (p : Nat) : QS (refill p) := fun w =>
  refillW_rel QStep.refl QStep.trans p false (fun w a => qs_setEnts_dropFirst a .queue w)
    (fun w a k rid => qs_setEnts_insert a .pub k rid (by simp) w) (fun w rid => (retryPublishW_sent p rid false w).qsame.qstep) _ w

end Mqtt
