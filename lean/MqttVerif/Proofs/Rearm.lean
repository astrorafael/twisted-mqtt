import MqttVerif.Proofs.Timers
/-
  C08 / C09: "nothing is repeated except on expiry or resumption", over the history of timers.  Every transmission of a request with an
  identifier creates a retry DelayedCall of kind `.retry p rid` (the timer table only grows), so "which requests get a new retry timer
  during an operation" says which requests the operation (re)transmits.  `RAx c N w w'`: between `w` and `w'` no timer was re-programmed,
  no `alarm` field went from a timer to `None` (unless `c` is false: the connection-loss handler), nothing old was put back on the queue,
  and every new retry timer is for a request in `N`.  `RA c x w0 w`: the same from the start `w0` of the operation, with `N` the
  justified requests: created during the operation, queued at its start, without a timer at its start (resumption), or `x`, the
  request whose own retry timer is expiring.  `RJ c x w0 s`: the step `s` keeps `RA c x w0`; the start is fixed so that the reason for a
  transmission may be something read earlier in the handler.  `RJ` is closed under the control operators, so the handlers are walked by
  `Proofs/Pass.lean`, except where a `_retry*` helper is called: there the reason is given (`RA.sent`) -- the head of the queue in
  `_refillPublish`, "no alarm" in `_syncSession`, the new request in `handlePUBREC` and `registerSubUnsub`, the timer's own request in
  `runTimer`.
-/
namespace Mqtt

def queuedIn (w : World) (rid : Nat) : Prop := ∃ e, e ∈ w.ents ∧ e.box = .queue ∧ e.rid = rid
/-- some container of the factory still holds request `rid` -/
def hasEnt (w : World) (rid : Nat) : Prop := ∃ e, e ∈ w.ents ∧ e.rid = rid

instance (w : World) (rid : Nat) : Decidable (queuedIn w rid) := by unfold queuedIn; infer_instance
instance (w : World) (rid : Nat) : Decidable (hasEnt w rid) := by unfold hasEnt; infer_instance

/-- why request `rid` may get a retry timer during an operation that starts in `w` -/
def JustL (c : Prop) (x : Option Nat) (w : World) (rid : Nat) : Prop :=
  w.nextReq ≤ rid ∨ queuedIn w rid ∨ (c ∧ (w.req rid).alarm = none ∧ hasEnt w rid) ∨ x = some rid

structure RAx (c : Prop) (N : Nat → Prop) (w w' : World) : Prop where
  keep : TKeep w w'
  back : ∀ t tm, t < w.nextTimer → w'.timers.get? t = some tm → ∃ tm0, w.timers.get? t = some tm0 ∧ tm0.kind = tm.kind
  nt : w.nextTimer ≤ w'.nextTimer
  nr : w.nextReq ≤ w'.nextReq
  alarm : c → ∀ rid, rid < w.nextReq → (w'.req rid).alarm = none → (w.req rid).alarm = none
  queue : ∀ e, e ∈ w'.ents → e.box = .queue → e.rid < w.nextReq → queuedIn w e.rid
  old : ∀ e, e ∈ w'.ents → e.rid < w.nextReq → hasEnt w e.rid
  new : ∀ t tm, w.nextTimer ≤ t → w'.timers.get? t = some tm → ∀ q rid, tm.kind = .retry q rid → N rid

section rax
variable {c : Prop} {N M : Nat → Prop} {x : Option Nat}

theorem RAx.refl {w : World} (h : TF w) : RAx c N w w :=
  ⟨TKeep.refl h, fun t tm _ ht => ⟨tm, ht, rfl⟩, Nat.le_refl _, Nat.le_refl _, fun _ _ _ h => h,
   fun e he hq _ => ⟨e, he, hq, rfl⟩, fun e he _ => ⟨e, he, rfl⟩, fun t tm hle ht => absurd (h t tm ht) (by omega)⟩

theorem RAx.trans {w0 w1 w2 : World} (a : RAx c N w0 w1) (b : RAx c M w1 w2) (hM : ∀ r, M r → N r) : RAx c N w0 w2 := by
  refine ⟨a.keep.trans b.keep, fun t tm hlt ht => ?_, Nat.le_trans a.nt b.nt, Nat.le_trans a.nr b.nr, fun hc rid hr h2 => ?_,
    fun e he hq hr => ?_, fun e he hr => ?_, fun t tm hle ht q rid hk => ?_⟩
  · obtain ⟨tm1, h1, k1⟩ := b.back t tm (Nat.lt_of_lt_of_le hlt a.nt) ht
    obtain ⟨tm0, h0, k0⟩ := a.back t tm1 hlt h1
    exact ⟨tm0, h0, k0.trans k1⟩
  · exact a.alarm hc rid hr (b.alarm hc rid (Nat.lt_of_lt_of_le hr a.nr) h2)
  · obtain ⟨e1, he1, hq1, hr1⟩ := b.queue e he hq (Nat.lt_of_lt_of_le hr a.nr)
    exact hr1 ▸ a.queue e1 he1 hq1 (hr1 ▸ hr)
  · obtain ⟨e1, he1, hr1⟩ := b.old e he (Nat.lt_of_lt_of_le hr a.nr)
    exact hr1 ▸ a.old e1 he1 (hr1 ▸ hr)
  · by_cases hlt : t < w1.nextTimer
    · obtain ⟨tm1, h1, k1⟩ := b.back t tm hlt ht
      exact a.new t tm1 hle h1 q rid (k1.trans hk)
    · exact hM _ (b.new t tm (by omega) ht q rid hk)

theorem RAx.mono {w w' : World} (a : RAx c N w w') (hN : ∀ r, N r → M r) : RAx c M w w' :=
  ⟨a.keep, a.back, a.nt, a.nr, a.alarm, a.queue, a.old, fun t tm hle ht q rid hk => hN _ (a.new t tm hle ht q rid hk)⟩

theorem RAx.congr {w w1 w' : World} (a : RAx c N w w1) (h1 : w'.timers = w1.timers) (h2 : w'.nextTimer = w1.nextTimer)
    (h3 : w'.nextReq = w1.nextReq) (h4 : w'.reqs = w1.reqs) (h5 : w'.ents = w1.ents) : RAx c N w w' :=
  ⟨⟨fun t tm ht => by rw [h2]; exact a.keep.tf t tm (h1 ▸ ht), fun t tm ht => by rw [h1]; exact a.keep.keep t tm ht⟩,
   fun t tm hlt ht => a.back t tm hlt (h1 ▸ ht), h2 ▸ a.nt, h3 ▸ a.nr,
   fun hc r hr ha => a.alarm hc r hr (by rw [World.req, ← h4]; exact ha),
   fun e he => a.queue e (h5 ▸ he), fun e he => a.old e (h5 ▸ he), fun t tm hle ht => a.new t tm hle (h1 ▸ ht)⟩

/-- a justification at a later state of the operation is one at its start -/
theorem RAx.transport {w0 w1 : World} (a : RAx c N w0 w1) {r : Nat} (h : JustL c x w1 r) : JustL c x w0 r := by
  rcases h with h | ⟨e, he, hq, hr⟩ | ⟨hc, h, e, he, hr⟩ | h
  · exact Or.inl (Nat.le_trans a.nr h)
  · by_cases hlt : r < w0.nextReq
    · exact Or.inr (Or.inl (hr ▸ a.queue e he hq (hr ▸ hlt)))
    · exact Or.inl (by omega)
  · by_cases hlt : r < w0.nextReq
    · exact Or.inr (Or.inr (Or.inl ⟨hc, a.alarm hc r hlt h, hr ▸ a.old e he (hr ▸ hlt)⟩))
    · exact Or.inl (by omega)
  · exact Or.inr (Or.inr (Or.inr h))

theorem rax_of {w w' : World} (h : TF w)
    (ht : (w'.timers = w.timers ∧ w'.nextTimer = w.nextTimer) ∨
      ∃ v, w'.timers = w.timers.set w.nextTimer v ∧ w'.nextTimer = w.nextTimer + 1 ∧ ∀ q rid, v.kind = .retry q rid → N rid)
    (hn : w.nextReq ≤ w'.nextReq) (ha : c → ∀ rid, rid < w.nextReq → (w'.req rid).alarm = none → (w.req rid).alarm = none)
    (he : ∀ e, e ∈ w'.ents → e ∈ w.ents) : RAx c N w w' := by
  refine ⟨tkeep_of h (ht.imp id fun ⟨v, h1, h2, _⟩ => ⟨v, h1, h2⟩), fun t tm hlt htm => ?_, ?_, hn, ha,
    fun e hm hq _ => ⟨e, he e hm, hq, rfl⟩, fun e hm _ => ⟨e, he e hm, rfl⟩, fun t tm hle htm q r hk => ?_⟩
  · rcases ht with ⟨h1, _⟩ | ⟨v, h1, _⟩
    · exact ⟨tm, h1 ▸ htm, rfl⟩
    · rw [h1, Dict.get?_set, if_neg (by omega)] at htm
      exact ⟨tm, htm, rfl⟩
  · rcases ht with ⟨_, h2⟩ | ⟨_, _, h2, _⟩
    · omega
    · omega
  · rcases ht with ⟨h1, _⟩ | ⟨v, h1, _, hv⟩
    · exact absurd (h t tm (h1 ▸ htm)) (by omega)
    · rw [h1, Dict.get?_set] at htm
      split at htm
      · injection htm with htm; subst htm
        exact hv q r hk
      · exact absurd (h t tm htm) (by omega)

theorem rax_status (w : World) (h : TF w) (t : Nat) (tm : Timer) (ht : w.timers.get? t = some tm) (st : TStatus) :
    RAx c (fun _ => False) w { w with timers := w.timers.set t { tm with status := st } } := by
  refine ⟨tkeep_status w h t tm ht st, fun t' tm' _ ht' => ?_, Nat.le_refl _, Nat.le_refl _, fun _ _ _ ha => ha,
    fun e he hq _ => ⟨e, he, hq, rfl⟩, fun e he _ => ⟨e, he, rfl⟩, fun t' tm' hle ht' => ?_⟩
  · simp only [Dict.get?_set] at ht'
    split at ht'
    · rename_i he; subst he
      injection ht' with ht'; subst ht'
      exact ⟨tm, ht, rfl⟩
    · exact ⟨tm', ht', rfl⟩
  · simp only [Dict.get?_set] at ht'
    split at ht'
    · rename_i he; subst he
      exact absurd (h t tm ht) (by omega)
    · exact absurd (h t' tm' ht') (by omega)

theorem Sent.rax {p rid : Nat} {w w' : World} (s : Sent p rid w w') (h : TF w) : RAx c (· = rid) w w' := by
  refine rax_of h ?_ (Nat.le_of_eq s.nextReq.symm) (fun _ r _ hr => ?_) fun e he => s.ents ▸ he
  · refine s.timer.imp (fun t => ⟨t.1, t.2.1⟩) fun ⟨_, _, h1, h2, _⟩ => ⟨_, h1, h2, fun _ _ hk => ?_⟩
    injection hk with _ hk
    exact hk.symm
  · by_cases hne : rid = r
    · subst hne
      rcases s.timer with ⟨_, _, ha, _⟩ | ⟨_, _, _, _, ha⟩
      · exact ha ▸ hr
      · rw [ha] at hr; cases hr
    · rw [← s.req_of_ne hne]; exact hr

end rax

def RA (c : Prop) (x : Option Nat) (w0 w : World) : Prop := RAx c (JustL c x w0) w0 w

section ra
variable {c : Prop} {x : Option Nat} {w0 : World}

theorem RA.refl {w : World} (h : TF w) : RA c x w w := RAx.refl h
theorem RA.tf {w0 w : World} (h : RA c x w0 w) : TF w := h.keep.tf
theorem RA.step {w0 w w' : World} {M : Nat → Prop} (h : RA c x w0 w) (d : RAx c M w w') (hM : ∀ r, M r → JustL c x w r ∨ JustL c x w0 r) :
    RA c x w0 w' :=
  RAx.trans h d fun r hr => (hM r hr).elim (fun j => h.transport j) id
theorem RA.frame {w0 w w' : World} (h : RA c x w0 w) (d : RAx c (fun _ => False) w w') : RA c x w0 w' := h.step d fun _ hf => hf.elim
theorem RA.sent {p rid : Nat} {w w' : World} (h : RA c x w0 w) (s : Sent p rid w w') (hj : JustL c x w rid ∨ JustL c x w0 rid) :
    RA c x w0 w' :=
  h.step (s.rax h.tf) fun _ hr => hr ▸ hj

def RJ (c : Prop) (x : Option Nat) (w0 : World) (s : Step) : Prop := ∀ w, RA c x w0 w → RA c x w0 (s w).1

theorem rj_closed : Step.Closed (RJ c x w0) := Step.Closed.preserving (RA c x w0)

/-- what the state read justifies can be used: the statement is about that state -/
theorem rj_read' {f : World → Step} (hf : ∀ w, RA c x w0 w → RA c x w0 ((f w) w).1) : RJ c x w0 (Step.read f) := fun w h => hf w h
theorem ra_seq {a b : Step} {w : World} (ha : RA c x w0 (a w).1) (hb : RJ c x w0 b) : RA c x w0 ((a ;; b) w).1 := by
  simp only [Step.seq]
  rcases hw : a w with ⟨w1, _ | e⟩
  · rw [hw] at ha; exact hb w1 ha
  · rw [hw] at ha; exact ha
theorem rj_frame {s : Step} (hs : ∀ w, TF w → RAx c (fun _ => False) w (s w).1) : RJ c x w0 s := fun w h => h.frame (hs w h.tf)

theorem rax_quiet {w w' : World} (h : TF w) (h1 : w'.timers = w.timers) (h2 : w'.nextTimer = w.nextTimer) (h3 : w.nextReq ≤ w'.nextReq)
    (h4 : ∀ r, r < w.nextReq → w'.reqs.get? r = w.reqs.get? r) (h5 : w'.ents = w.ents) : RAx c (fun _ => False) w w' :=
  rax_of h (Or.inl ⟨h1, h2⟩) h3 (fun _ r hr ha => by rw [World.req, ← h4 r hr]; exact ha) fun e he => h5 ▸ he
theorem rj_create {f : World → World} (h1 : ∀ w, (f w).timers = w.timers) (h2 : ∀ w, (f w).nextTimer = w.nextTimer)
    (h3 : ∀ w, w.nextReq ≤ (f w).nextReq) (h4 : ∀ w r, r < w.nextReq → (f w).reqs.get? r = w.reqs.get? r) (h5 : ∀ w, (f w).ents = w.ents) :
    RJ c x w0 (Step.mod f) :=
  rj_frame fun w h => rax_quiet h (h1 w) (h2 w) (h3 w) (h4 w) (h5 w)
theorem ra_create {w w' : World} (h : RA c x w0 w) (R : Req) (h1 : w'.timers = w.timers) (h2 : w'.nextTimer = w.nextTimer)
    (h3 : w'.nextReq = w.nextReq + 1) (h4 : w'.reqs = w.reqs.set w.nextReq R) (h5 : w'.ents = w.ents) : RA c x w0 w' :=
  h.frame (rax_quiet h.tf h1 h2 (by omega) (fun r hr => by rw [h4, Dict.get?_set, if_neg (by omega)]) h5)
theorem rj_mod {f : World → World} (hf : ∀ w, (f w).timers = w.timers ∧ (f w).nextTimer = w.nextTimer ∧ (f w).nextReq = w.nextReq ∧
    (f w).reqs = w.reqs ∧ (f w).ents = w.ents) : RJ c x w0 (Step.mod f) :=
  fun w h =>
    let ⟨h1, h2, h3, h4, h5⟩ := hf w
    h.congr h1 h2 h3 h4 h5
theorem rj_emit (o : Obs) : RJ c x w0 (emit o) := rj_mod fun _ => ⟨rfl, rfl, rfl, rfl, rfl⟩
theorem rj_setProto (q : Nat) (g : Proto → Proto) : RJ c x w0 (setProto q g) := rj_mod fun _ => ⟨rfl, rfl, rfl, rfl, rfl⟩
theorem rj_setEnts (g : List Ent → List Ent) (hg : ∀ es e, e ∈ g es → e ∈ es) : RJ c x w0 (setEnts g) :=
  rj_frame fun w h => rax_of h (Or.inl ⟨rfl, rfl⟩) (Nat.le_refl _) (fun _ _ _ ha => ha) (hg w.ents)
theorem rj_remove (a : Nat) (b : Box) (k : Nat) : RJ c x w0 (setEnts fun es => Ents.remove es a b k) := rj_setEnts _ fun _ _ he => Ents.mem_remove he
theorem rj_dropFirst (a : Nat) (b : Box) : RJ c x w0 (setEnts fun es => Ents.dropFirst es a b) := rj_setEnts _ fun _ _ he => Ents.mem_dropFirst he
theorem ra_add {w : World} (h : RA c x w0 w) (g : List Ent → List Ent) (e0 : Ent) (hg : ∀ e, e ∈ g w.ents → e ∈ w.ents ∨ e = e0)
    (hq : e0.box = .queue → w0.nextReq ≤ e0.rid) (hr : w0.nextReq ≤ e0.rid ∨ hasEnt w0 e0.rid) : RA c x w0 (w.setEnts g) :=
  ⟨h.keep.trans (tkeep_same h.tf rfl rfl), h.back, h.nt, h.nr, h.alarm,
   fun e he hb hlt => (hg e he).elim (fun he' => h.queue e he' hb hlt) fun he' => absurd hlt (Nat.not_lt.mpr (he' ▸ hq (he' ▸ hb))),
   fun e he hlt => (hg e he).elim (fun he' => h.old e he' hlt) fun he' =>
    (he' ▸ hr).elim (fun hle => absurd hlt (Nat.not_lt.mpr hle)) id,
   h.new⟩
theorem ra_insert {w : World} (h : RA c x w0 w) (a : Nat) (b : Box) (k rid : Nat) (hb : b ≠ .queue) (hr : w0.nextReq ≤ rid ∨ hasEnt w0 rid) :
    RA c x w0 (w.setEnts fun es => Ents.insert es a b k rid) :=
  ra_add h _ ⟨a, b, k, rid⟩ (fun _ he => Ents.mem_insert he) (fun hq => absurd hq hb) hr
theorem rj_insert (a : Nat) (b : Box) (k rid : Nat) (hb : b ≠ .queue) (hr : w0.nextReq ≤ rid ∨ hasEnt w0 rid) :
    RJ c x w0 (setEnts fun es => Ents.insert es a b k rid) := fun _ h => ra_insert h a b k rid hb hr
theorem rj_enqueue (a rid : Nat) (hr : w0.nextReq ≤ rid) : RJ c x w0 (setEnts fun es => es ++ [⟨a, .queue, 0, rid⟩]) := fun _ h =>
  ra_add h (· ++ [Ent.mk a .queue 0 rid]) _ (fun _ he => (List.mem_append.mp he).imp id List.mem_singleton.mp) (fun _ => hr) (Or.inl hr)
theorem rj_setReq (rid : Nat) (g : Req → Req) (hg : c → ∀ r, (g r).alarm = none → r.alarm = none) : RJ c x w0 (setReq rid g) :=
  rj_frame fun w h => rax_of h (Or.inl ⟨rfl, rfl⟩) (Nat.le_refl _)
    (fun hc r _ ha => by
      have ha' : ((w.setReq rid g).req r).alarm = none := ha
      rw [req_setReq] at ha'
      split at ha'
      · rename_i he; subst he; exact hg hc _ ha'
      · exact ha')
    (fun e he => he)
/-- not by `Step.Closed.cancelTimer`: the status is written into the timer that was just read, under its own identifier -/
theorem rj_cancelTimer (t : Nat) : RJ c x w0 (cancelTimer t) := by
  intro w h
  rcases cancelTimer_cases t w with e | ⟨tm, ht, _, e⟩ <;> rw [e]
  · exact h
  · exact h.frame (rax_status w h.tf t tm ht .cancelled)
theorem rj_callLater (d : Rat) (k : TKind) {f : Nat → Step} (hf : ∀ t, RJ c x w0 (f t)) (hk : ∀ q rid, k ≠ .retry q rid) :
    RJ c x w0 (callLater d k f) :=
  rj_closed.callLater d k (rj_frame fun _ h =>
    rax_of h (Or.inr ⟨_, rfl, rfl, fun q rid he => absurd he (hk q rid)⟩) (Nat.le_refl _) (fun _ _ _ ha => ha) fun _ he => he) hf
theorem rj_newDfd {f : Nat → Step} (hf : ∀ t, RJ c x w0 (f t)) : RJ c x w0 (newDfd f) :=
  rj_closed.newDfd (fun _ => rj_mod fun _ => ⟨rfl, rfl, rfl, rfl, rfl⟩) hf
theorem rj_makeId {f : Nat → Step} (hf : ∀ t, RJ c x w0 (f t)) : RJ c x w0 (makeId f) :=
  rj_closed.makeId (fun _ => rj_mod fun _ => ⟨rfl, rfl, rfl, rfl, rfl⟩) hf
theorem rj_fireDfd (d : Nat) (o : Outcome) : RJ c x w0 (fireDfd d o) :=
  rj_closed.fireDfd d o (rj_mod fun _ => ⟨rfl, rfl, rfl, rfl, rfl⟩) (rj_emit _)

theorem retryPublishW_rax (p rid : Nat) (dup : Bool) (w : World) (h : TF w) : RAx c (· = rid) w (retryPublishW p rid dup w) :=
  (retryPublishW_sent p rid dup w).rax h

theorem rj_sent {p rid : Nat} {f : World → World} (hf : ∀ w, Sent p rid w (f w)) (hj : JustL c x w0 rid) : RJ c x w0 (Step.mod f) :=
  fun w h => h.sent (hf w) (Or.inr hj)

theorem refillW_ra (p : Nat) (dup : Bool) (fuel : Nat) : ∀ (w : World), RA c x w0 w → RA c x w0 (refillW p dup fuel w) := by
  induction fuel with
  | zero => exact fun _ h => h
  | succ f ih =>
    intro w h
    simp only [refillW]
    split
    · exact h
    · rename_i e rest hitems
      split
      · obtain ⟨he, _, hq⟩ := Ents.mem_items.mp (hitems ▸ List.mem_cons_self : e ∈ Ents.items w.ents (w.paddr p) .queue)
        have hj : JustL c x w0 e.rid := h.transport (Or.inr (Or.inl ⟨e, he, hq, rfl⟩))
        refine ih _ (RA.sent ?_ (retryPublishW_sent p e.rid dup _) (Or.inr hj))
        have hd := rj_dropFirst (w.paddr p) .queue w h
        split
        · exact ra_insert hd _ _ _ _ nofun ((Nat.lt_or_ge e.rid w0.nextReq).symm.imp id (h.old e he))
        · exact hd
      · exact h
theorem rj_refill (p : Nat) : RJ c x w0 (refill p) := fun w h => refillW_ra p false _ w h

/-- one loop of `_syncSession`: being held without a timer while a session is resumed (`hc`) is the reason for sending -/
theorem foldSent_ra (hc : c) {p : Nat} {g : Nat → World → World} (hg : ∀ rid w, Sent p rid w (g rid w)) (l : List Ent) (w : World)
    (hl : ∀ e ∈ l, e ∈ w.ents) (h : RA c x w0 w) :
    RA c x w0 (l.foldl (fun w e => if (w.req e.rid).alarm = none then g e.rid w else w) w) :=
  (foldl_rel_mem (R := fun w1 w2 => w1.ents = w.ents ∧ RA c x w0 w1 → w2.ents = w.ents ∧ RA c x w0 w2) (fun _ h => h)
    (fun a b h => b (a h)) l _ (fun e he w1 ⟨hE, h1⟩ => by
      split
      · exact ⟨(hg _ _).ents.trans hE, h1.sent (hg _ _) (Or.inl (Or.inr (Or.inr (Or.inl ⟨hc, ‹_›, e, hE ▸ hl e he, rfl⟩))))⟩
      · exact ⟨hE, h1⟩) w ⟨rfl, h⟩).2
theorem rj_syncSession (hc : c) (p : Nat) : RJ c x w0 (syncSession p) := fun w h =>
  foldSent_ra hc (fun rid w => retryPublishW_sent p rid true w) _ _ (fun _ he => (Ents.mem_items.mp he).1)
    (foldSent_ra hc (fun rid w => retryReleaseW_sent p rid true w) _ w (fun _ he => (Ents.mem_items.mp he).1) h)

theorem rj_loopRun (p : Nat) : RJ c x w0 (loopRun p) :=
  rj_closed.loopRun
    (rj_closed.ping (rj_closed.doPingRequest (rj_emit _) fun _ => rj_callLater _ _ (fun _ => rj_setProto _ _) nofun))
    (fun _ => rj_callLater _ _ (fun _ => rj_setProto _ _) nofun) (rj_setProto _ _)

theorem rj_handlePUBREC (p m : Nat) : RJ c x w0 (handlePUBREC p m) := by
  unfold handlePUBREC
  generalize encodePUBREL (m : Int) = E
  refine rj_closed.read fun w => ?_
  split
  · exact rj_closed.ok
  · split
    · exact rj_closed.ok
    · refine rj_closed.seq (rj_closed.cancelAlarm _ rj_cancelTimer) (rj_closed.seq (rj_remove _ _ _) ?_)
      cases E with
      | error e => exact rj_closed.raise _
      | ok bs =>
        refine rj_read' fun w' hw' => ra_seq (ra_create hw' _ rfl rfl rfl rfl rfl) ?_
        exact rj_closed.seq (rj_insert _ _ _ _ nofun (Or.inl hw'.nr)) (rj_sent (retryReleaseW_sent _ _ _) (Or.inl hw'.nr))

theorem rj_processPacket (hc : c) (p : Nat) (pkt : Bytes) : RJ c x w0 (processPacket p pkt) :=
  rj_closed.processPacket_prims pkt (rj_emit _) (rj_emit _) (fun _ => rj_emit _) (fun _ _ _ _ _ => rj_emit _) rj_cancelTimer
    (fun _ _ => rj_fireDfd _ _) (fun _ _ => rj_fireDfd _ _) (fun _ _ _ => rj_remove _ _ _)
    (fun _ => rj_mod fun _ => ⟨rfl, rfl, rfl, rfl, rfl⟩) (rj_syncSession hc p) (rj_refill p) (rj_loopRun p) (rj_handlePUBREC p)
    fun _ _ => rj_setProto _ _

theorem rj_connectionLost (hc : ¬ c) (p : Nat) (r : Err) : RJ c x w0 (connectionLost p r) :=
  rj_closed.connectionLost_prims r rj_cancelTimer (fun _ => rj_setReq _ _ fun h => absurd h hc) (fun _ _ _ => rj_remove _ _ _)
    (fun _ => rj_dropFirst _ _) (fun _ => rj_fireDfd _ _) (rj_callLater _ _ (fun _ => rj_closed.ok) nofun) fun _ _ => rj_setProto _ _

theorem rj_registerSubUnsub (p : Nat) (s : Bool) (i : Nat) (bs : Bytes) : RJ c x w0 (registerSubUnsub p s i bs) := by
  refine rj_read' fun w hw => ?_
  rw [newDfd_at]
  have h1 : RA c x w0 { w with nextDfd := w.nextDfd + 1 } := hw.congr rfl rfl rfl rfl rfl
  refine ra_seq (ra_create h1 _ rfl rfl rfl rfl rfl) ?_
  refine rj_closed.seq (rj_insert _ _ _ _ (by split <;> nofun) (Or.inl hw.nr)) ?_
  exact rj_closed.seq (rj_sent (retrySubUnsubW_sent _ _ _ _) (Or.inl hw.nr)) (rj_emit _)
theorem rj_mkStep (p : Nat) (pr : Proto) (qn m : Nat) (d : Option Nat) (bs : Bytes) : RJ c x w0 (mkStep p pr qn m d bs) :=
  rj_read' fun _ hw => ra_seq (ra_create hw _ rfl rfl rfl rfl rfl) (rj_closed.seq (rj_enqueue _ _ hw.nr) (rj_refill _))

theorem rj_runTimer (k : TKind) (hk : ∀ q rid, k = .retry q rid → x = some rid) : RJ c x w0 (runTimer k) := by
  cases k with
  | connack cr =>
    exact rj_closed.runTimer_connack cr (fun _ => rj_fireDfd _ _) (fun _ => rj_mod fun _ => ⟨rfl, rfl, rfl, rfl, rfl⟩) fun _ => rj_emit _
  | pingLoop q => exact rj_closed.seq (rj_setProto _ _) (rj_loopRun q)
  | pingAlarm q => exact rj_closed.seq (rj_setProto _ _) (rj_emit _)
  | retry q rid =>
    have hj : JustL c x w0 rid := Or.inr (Or.inr (Or.inr (hk q rid rfl)))
    exact rj_closed.runTimer_retry q rid (rj_sent (retryPublishW_sent q rid true) hj) (rj_sent (retryReleaseW_sent q rid true) hj)
      fun s => rj_sent (retrySubUnsubW_sent q rid true s) hj
  | onDisc q r => exact rj_emit _

end ra

/-- the request whose pending retry timer the operation runs, if that is what it does -/
def Op.expiring (w : World) : Op → Option Nat
  | .fire t =>
    match w.timers.get? t with
    | some tm =>
      (match tm.kind with
       | .retry _ rid => if tm.status = .pending then some rid else none
       | _ => none)
    | none => none
  | _ => none

/-- the processing of bytes received from the broker (the one operation during which a session can be resumed) -/
def Op.isRecv (op : Op) : Prop := ∃ p d, op = .recv p d

theorem rj_handler (w : World) (op : Op) (hop : ∀ t, op ≠ .fire t) : RJ op.isRecv (op.expiring w) w op.handler := by
  cases op with
  | build a => exact rj_mod fun _ => ⟨rfl, rfl, rfl, rfl, rfl⟩
  | jit v => exact rj_mod fun _ => ⟨rfl, rfl, rfl, rfl, rfl⟩
  | setid v => exact rj_mod fun _ => ⟨rfl, rfl, rfl, rfl, rfl⟩
  | sethandlers p m => exact rj_setProto _ _
  | connect p a =>
    exact rj_closed.apiConnect a (fun _ => rj_emit _) (rj_setProto _ _) (fun _ _ => rj_emit _) (rj_setProto _ _)
      fun _ _ => rj_callLater _ _ (fun _ => rj_newDfd fun _ =>
        rj_closed.seq (rj_mod fun _ => ⟨rfl, rfl, rfl, rfl, rfl⟩) (rj_closed.seq (rj_setProto _ _) (rj_emit _))) nofun
  | disconnect p => exact rj_closed.apiDisconnect (rj_emit _) (rj_emit _) (rj_emit _)
  | publish p t pl qs r =>
    exact rj_closed.apiPublish t pl qs r (fun _ => rj_emit _) (rj_emit _) (fun _ _ => rj_emit _) rj_makeId rj_newDfd (rj_mkStep p)
  | subscribe p a qs => exact rj_closed.apiSubscribe a qs (fun _ => rj_emit _) rj_makeId (rj_registerSubUnsub p true)
  | unsubscribe p a => exact rj_closed.apiUnsubscribe a (fun _ => rj_emit _) rj_makeId (rj_registerSubUnsub p false)
  | setwin p n => exact rj_closed.apiSetWindow n (fun _ _ => rj_setProto _ _) (rj_emit _)
  | settimeout p n => exact rj_closed.apiSetTimeout n (fun _ => rj_setProto _ _) (rj_emit _)
  | setbw p b f => exact rj_closed.apiSetBandwith b f (rj_setProto _ _) (rj_emit _)
  | recv p d => exact rj_closed.dataReceived d (rj_processPacket ⟨p, d, rfl⟩ p) (rj_setProto _ _) fun _ => rj_setProto _ _
  | lost p r => exact rj_connectionLost (fun ⟨_, _, h⟩ => nomatch h) p r
  | fire t => exact absurd rfl (hop t)

theorem ra_handler (w : World) (h : TF w) (op : Op) : RA op.isRecv (op.expiring w) w (op.handler w).1 := by
  cases op with
  | fire t =>
    refine fireTimer_at (Q := fun r => RA _ _ w r.1) t w (rj_emit _ w (RA.refl h)) fun tm ht hpend => ?_
    have hx : ∀ q rid, tm.kind = .retry q rid → Op.expiring w (.fire t) = some rid := fun q rid hk => by
      simp only [Op.expiring, ht, hk, hpend, ↓reduceIte]
    exact ra_seq ((RA.refl h).frame ((rax_status w h t tm ht .called).congr rfl rfl rfl rfl rfl)) (rj_runTimer tm.kind hx)
  | _ => exact rj_handler w _ (by nofun) w (RA.refl h)

/-- **re-arming needs a reason**: every retry timer created by an operation is for a request that was created during the operation,
    was waiting on the queue when it started, was held by the factory without a timer when it started (and the operation processes
    received bytes: resumption), or is the request whose own pending retry timer the operation runs -/
theorem ra_step (w : World) (h : TF w) (op : Op) : RA op.isRecv (op.expiring w) w (step w op) :=
  Step.Rel.step (R := RA op.isRecv (op.expiring w)) (ra_handler w h op) fun _ _ h1 => h1.congr rfl rfl rfl rfl rfl

end Mqtt
