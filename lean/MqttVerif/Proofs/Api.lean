import MqttVerif.Proofs.Fire
import MqttVerif.Props.C17
/-
  The application-facing operations preserve the invariant (whether they return, fail their
  Deferred or raise).
-/
namespace Mqtt

/-! ### MQTTFactory.buildProtocol -/

theorem buildProtocol_inv {w : World} (h : WInv w) (a : Nat)
    (henv : ∀ p pr, w.protos.get? p = some pr → pr.addr = a → pr.lost = true) :
    (buildProtocol a w).2 = none ∧ WInv (buildProtocol a w).1 := by
  have hnew : ∀ q qr, (buildProtocol a w).1.protos.get? q = some qr →
      (q = w.nextProto ∧ qr = { addr := a }) ∨ w.protos.get? q = some qr := fun q qr hq =>
    (Dict.get?_set_cases hq).imp_right (·.2)
  have hold : ∀ q qr, w.protos.get? q = some qr → (buildProtocol a w).1.protos.get? q = some qr := fun q qr hq => by
    rw [show (buildProtocol a w).1.protos = w.protos.set w.nextProto { addr := a } from rfl, Dict.get?_set,
      if_neg (Nat.ne_of_gt (h.protoFresh q qr hq)), hq]
  refine ⟨rfl, { h with
    protoFresh := ?_, alarm := ?_, connected := ?_, oneLive := ?_, lostIdle := ?_, pingAlarm := ?_, pingTimer := ?_,
    pingAlarmOwned := ?_, pingLoopOwned := ?_, connecting := ?_, connackOwned := ?_, retryLive := ?_, connReqLive := ?_,
    connReqRef := ?_, subArmed := ?_, bufOk := ?_ }⟩
  · intro q qr hq
    rcases hnew q qr hq with ⟨rfl, -⟩ | hq
    · exact Nat.lt_succ_self _
    · exact Nat.lt_succ_of_lt (h.protoFresh q qr hq)
  · intro e he t ht
    obtain ⟨a1, q, qr, a2, a3, a4⟩ := h.alarm e he t ht
    exact ⟨a1, q, qr, a2, hold q qr a3, a4⟩
  · intro q qr hq hx hl hs
    rcases hnew q qr hq with ⟨-, rfl⟩ | hq
    · cases hs
    · exact h.connected q qr hq hx hl hs
  · intro q1 q2 r1 r2 h1 h2 l1 l2 ha
    rcases hnew q1 r1 h1 with ⟨rfl, rfl⟩ | h1 <;> rcases hnew q2 r2 h2 with ⟨rfl, rfl⟩ | h2
    · rfl
    · exact nomatch (henv q2 r2 h2 ha.symm).symm.trans l2
    · exact nomatch (henv q1 r1 h1 ha).symm.trans l1
    · exact h.oneLive q1 q2 r1 r2 h1 h2 l1 l2 ha
  · intro q qr hq hl
    rcases hnew q qr hq with ⟨-, rfl⟩ | hq
    · cases hl
    · exact h.lostIdle q qr hq hl
  · intro q qr t hq ht
    rcases hnew q qr hq with ⟨-, rfl⟩ | hq
    · cases ht
    · exact h.pingAlarm q qr t hq ht
  · intro q qr l hq hl
    rcases hnew q qr hq with ⟨-, rfl⟩ | hq
    · cases hl
    · exact h.pingTimer q qr l hq hl
  · intro t q hp
    obtain ⟨pr, a1, a2⟩ := h.pingAlarmOwned t q hp
    exact ⟨pr, hold q pr a1, a2⟩
  · intro t q hp
    obtain ⟨pr, l, a1, a2⟩ := h.pingLoopOwned t q hp
    exact ⟨pr, l, hold q pr a1, a2⟩
  · intro q qr hq hs
    rcases hnew q qr hq with ⟨-, rfl⟩ | hq
    · cases hs
    · exact h.connecting q qr hq hs
  · intro t cr hp
    obtain ⟨c, d, a1, a2, a3, a4, pr, a5, a6⟩ := h.connackOwned t cr hp
    exact ⟨c, d, a1, a2, a3, a4, pr, hold _ pr a5, a6⟩
  · intro t q rid hp
    obtain ⟨pr, a1, a2⟩ := h.retryLive t q rid hp
    exact ⟨pr, hold q pr a1, a2⟩
  · intro q qr cr c hq hcq
    rcases hnew q qr hq with ⟨-, rfl⟩ | hq
    · cases hcq
    · exact h.connReqLive q qr cr c hq hcq
  · intro q qr cr hq hcq
    rcases hnew q qr hq with ⟨-, rfl⟩ | hq
    · cases hcq
    · exact h.connReqRef q qr cr hq hcq
  · intro e he hb ha
    obtain ⟨q, qr, a1, _⟩ := h.subArmed e he hb ha
    cases a1
  · intro q qr hq
    rcases hnew q qr hq with ⟨-, rfl⟩ | hq
    · exact nofun
    · exact h.bufOk q qr hq

/-! ### setters, handlers, disconnect -/

theorem inert_keeps {p : Nat} {f : Proto → Proto}
    (hf : ∀ pr, (f pr).addr = pr.addr ∧ (f pr).state = pr.state ∧ (f pr).lost = pr.lost ∧ (f pr).pingTimer = pr.pingTimer ∧
      (f pr).pingAlarm = pr.pingAlarm ∧ (f pr).pingKeepalive = pr.pingKeepalive ∧ (f pr).connReq = pr.connReq ∧
      (f pr).buffer = pr.buffer) (w : World) (h : WInv w ∧ Exists w p) : WInv (setProto p f w).1 ∧ Exists (setProto p f w).1 p := by
  obtain ⟨ppr, hpp⟩ := h.2
  have e := hf ppr
  exact ⟨h.1.sameCore (setProto_sameCore p f ppr hpp h.1.idCounter ⟨e.1, e.2.1, e.2.2.1, e.2.2.2.1, e.2.2.2.2.1, e.2.2.2.2.2.1,
    e.2.2.2.2.2.2.1, fun hb => e.2.2.2.2.2.2.2 ▸ hb⟩), _, (Dict.get?_set _ _ _ _).trans (if_pos rfl)⟩

theorem emit_keeps (p : Nat) (o : Obs) (w : World) (h : WInv w ∧ Exists w p) : WInv (emit o w).1 ∧ Exists (emit o w).1 p :=
  ⟨emit_inv h.1 o, h.2⟩

theorem apiSetHandlers_inv {w : World} (h : WInv w) (p : Nat) (mask : Nat) (hex : Exists w p) :
    (apiSetHandlers p mask w).2 = none ∧ WInv (apiSetHandlers p mask w).1 :=
  ⟨rfl, And.left (b := Exists (apiSetHandlers p mask w).1 p) (inert_keeps (by exact fun _ => ⟨rfl, rfl, rfl, rfl, rfl, rfl, rfl, rfl⟩) w ⟨h, hex⟩)⟩

theorem apiSetWindow_inv {w : World} (h : WInv w) (p : Nat) (n : PyNum) (hex : Exists w p) : WInv (apiSetWindow p n w).1 :=
  ((Step.Closed.preserving fun w => WInv w ∧ Exists w p).apiSetWindow n
    (fun _ _ => inert_keeps fun _ => ⟨rfl, rfl, rfl, rfl, rfl, rfl, rfl, rfl⟩) (emit_keeps p _) w ⟨h, hex⟩).1

theorem apiSetTimeout_inv {w : World} (h : WInv w) (p : Nat) (n : PyNum) (hex : Exists w p) : WInv (apiSetTimeout p n w).1 :=
  ((Step.Closed.preserving fun w => WInv w ∧ Exists w p).apiSetTimeout n
    (fun _ => inert_keeps fun _ => ⟨rfl, rfl, rfl, rfl, rfl, rfl, rfl, rfl⟩) (emit_keeps p _) w ⟨h, hex⟩).1

theorem apiSetBandwith_inv {w : World} (h : WInv w) (p : Nat) (bw f : Rat) (hex : Exists w p) : WInv (apiSetBandwith p bw f w).1 :=
  ((Step.Closed.preserving fun w => WInv w ∧ Exists w p).apiSetBandwith bw f
    (inert_keeps fun _ => ⟨rfl, rfl, rfl, rfl, rfl, rfl, rfl, rfl⟩) (emit_keeps p _) w ⟨h, hex⟩).1

theorem apiDisconnect_inv {w : World} (h : WInv w) (p : Nat) : WInv (apiDisconnect p w).1 :=
  (Step.Closed.preserving WInv).apiDisconnect (fun _ h => emit_inv h _) (fun _ h => emit_inv h _) (fun _ h => emit_inv h _) w h

/-! ### publish() -/

theorem idInUse_false {w : World} {i : Nat} (h : idInUse w i = false) : ∀ y ∈ w.ents, idOf w y ≠ i := by
  intro y hy hc
  simp only [idInUse, List.any_eq_false] at h
  have := h y hy
  simp only [idOf] at hc
  split at hc <;> simp_all

theorem mkStep_inv {x : Option Nat} {w : World} (h : WInvX x w) (p : Nat) (ppr : Proto) (hpp : w.protos.get? p = some ppr)
    (hnl : ppr.lost = false) (pr : Proto) (qosn msgId : Nat) (dfd : Option Nat) (bs : Bytes)
    (hidf : msgId ≠ 0 → ∀ y ∈ w.ents, idOf w y ≠ msgId)
    (hsome : msgId ≠ 0 → dfd ≠ none)
    (hd : ∀ d, dfd = some d → d < w.nextDfd ∧ d ∉ w.fired ∧ (∀ y ∈ w.ents, (w.req y.rid).dfd ≠ some d) ∧
      (∀ cr c, w.connReqs.get? cr = some c → c.dfd ≠ some d)) :
    Step.Returns (mkStep p pr qosn msgId dfd bs) w (WInvX x) := by
  have hQ := addQueue_inv h ppr.addr w.nextReq
    { kind := .publish, msgId := msgId, qos := qosn, encoded := bs, dfd := dfd, alarm := none, initial := pr.initialT,
      ivValue := pr.initialT, ivK := 1, bandwith := pr.bandwith, factor := pr.factor, seq := w.nextSeq }
    (w.nextReq + 1) w.nextDfd (w.nextSeq + 1)
    (fun y hy hc => by have := h.ridFresh y hy; omega) (Nat.lt_succ_self _) (Nat.le_succ _) (Nat.le_refl _) hidf rfl hsome hd
  simp only [mkStep, Step.returns_read, paddr_of_get? (pr := ppr) hpp]
  exact .seq_eq rfl (.seq_eq rfl (.of_eq rfl (refillW_inv (x := x) p false ppr _ hQ hpp hnl).1))

theorem counters_inv {x : Option Nat} {w : World} (h : WInvX x w) (i k nd : Nat) (hi : i ≤ 65535) (hnd : w.nextDfd ≤ nd) :
    WInvX x { w with nextId := i, idAllocs := k, nextDfd := nd } := by
  have hs := sameCore_fields w w rfl rfl rfl rfl rfl rfl rfl h.idCounter rfl rfl rfl rfl rfl rfl
  exact h.sameCore { hs with nextId := hi, nextDfd := hnd }

theorem live_of_allowed {x : Option Nat} {w : World} (h : WInvX x w) (p : Nat) (ppr : Proto) (hpp : w.protos.get? p = some ppr)
    (op : Nat) (hop : op < 15) (hop0 : op ≠ 0) (ha : allowed w p op = true) : ppr.lost = false ∧ ppr.state ≠ .idle := by
  have hst := allowed_state h p ppr hpp op hop ha
  have hni : ppr.state ≠ .idle := by
    by_cases h6 : op = 6
    · rw [hst.2.1 h6]; simp
    · by_cases h4 : op = 4
      · exact hst.2.2.2 h4
      · rw [hst.2.2.1 hop0 h6 h4]; simp
  exact ⟨h.live_of_state hpp hni, hni⟩

theorem drawn_inv {w : World} (h : WInv w) (hfree : FreeId w) :
    WInv { w with nextId := scanId w 65535 w.nextId, idAllocs := w.idAllocs + 1 } ∧ scanId w 65535 w.nextId ≠ 0 ∧
    idInUse w (scanId w 65535 w.nextId) = false :=
  ⟨counters_inv h _ _ w.nextDfd (C17.scanId_range w _).2 (Nat.le_refl _), Nat.ne_of_gt (C17.scanId_range w _).1,
    C17.scanId_fresh w w.nextId h.idCounter hfree⟩

/-- MQTTFactory.makeId followed by anything that copes with a fresh identifier -/
theorem makeId_inv {w : World} (h : WInv w) (hfree : FreeId w) (k : Nat → Step)
    (hk : ∀ i, 1 ≤ i → i ≤ 65535 → idInUse w i = false → WInv { w with nextId := i, idAllocs := w.idAllocs + 1 } →
      (k i { w with nextId := i, idAllocs := w.idAllocs + 1 }).2 = none ∧ WInv (k i { w with nextId := i, idAllocs := w.idAllocs + 1 }).1) :
    (makeId k w).2 = none ∧ WInv (makeId k w).1 := by
  rw [makeId_at]
  exact hk _ (C17.scanId_range w _).1 (C17.scanId_range w _).2 (drawn_inv h hfree).2.2 (drawn_inv h hfree).1

theorem apiPublish_inv {w : World} (h : WInv w) (p : Nat) (topic : PyStr) (payload : Payload) (qos : Int) (retain : Bool)
    (hex : Exists w p) (hfree : FreeId w) :
    (apiPublish p topic payload qos retain w).2 = none ∧ WInv (apiPublish p topic payload qos retain w).1 := by
  obtain ⟨ppr, hpp⟩ := hex
  have hnl := fun ha => (live_of_allowed h p ppr hpp 4 (by omega) (by omega) ha).1
  obtain ⟨h1, _, hfr⟩ := drawn_inv h hfree
  rcases apiPublish_cases p topic payload qos retain w with ⟨e, he⟩ | ⟨bs, ha, _, _, he⟩ | ⟨w1, rfl, ha, _, _, ⟨e, he⟩ | ⟨bs, _, he⟩⟩ <;>
    rw [he]
  · exact ⟨rfl, emit_inv h _⟩
  · exact Step.Returns.seq (mkStep_inv h p ppr hpp (hnl ha) _ _ 0 none _ (fun hc => absurd rfl hc) (fun hc => absurd rfl hc) nofun)
      fun w1 h1 => .of_eq rfl (emit_inv h1 _)
  · exact ⟨rfl, emit_inv h1 _⟩
  · refine Step.Returns.seq (mkStep_inv (counters_inv h1 _ _ (w.nextDfd + 1) h1.idCounter (Nat.le_succ _)) p ppr hpp (hnl ha) _ _ _
      (some w.nextDfd) _ (fun _ => idInUse_false hfr) (fun _ => nofun) ?_) fun w1 h1 => .of_eq rfl (emit_inv h1 _)
    rintro d ⟨⟩
    exact ⟨Nat.lt_succ_self _, h.dfd_new⟩

/-! ### subscribe() / unsubscribe() -/

theorem registerSubUnsub_inv {x : Option Nat} {w : World} (h : WInvX x w) (p : Nat) (ppr : Proto) (hpp : w.protos.get? p = some ppr)
    (hnl : ppr.lost = false) (isSub : Bool) (i : Nat) (hi0 : i ≠ 0) (hfr : idInUse w i = false) (bs : Bytes) :
    (registerSubUnsub p isSub i bs w).2 = none ∧ WInvX x (registerSubUnsub p isSub i bs w).1 := by
  have hidf := idInUse_false hfr
  generalize hbox : (if isSub then Box.sub else Box.unsub) = box
  have hbq : box ≠ .queue := by cases isSub <;> simp at hbox <;> subst hbox <;> simp
  have hlook : Ents.lookup w.ents ppr.addr box i = none := by
    cases hl2 : Ents.lookup w.ents ppr.addr box i with
    | none => rfl
    | some r2 => exact absurd (by simp [idOf, hbq]) (hidf _ (Ents.lookup_some hl2))
  let nr : Req := { kind := if isSub then .subscribe else .unsubscribe, msgId := i, qos := 1, encoded := bs, dfd := some w.nextDfd,
                    alarm := none, initial := ppr.initialT, ivValue := ppr.initialT, ivK := 1, bandwith := 1, factor := 1, seq := 0 }
  let w4 : World := { w with nextDfd := w.nextDfd + 1, reqs := w.reqs.set w.nextReq nr, nextReq := w.nextReq + 1,
                             ents := w.ents ++ [⟨ppr.addr, box, i, w.nextReq⟩] }
  have hstep : registerSubUnsub p isSub i bs w = ((retrySubUnsubW p w.nextReq false isSub w4).emit (.retPending w.nextDfd (some i)), none) := by
    simp only [registerSubUnsub, read_apply, newDfd, Step.seq, Step.mod, setEnts, World.setEnts, retrySubUnsub, emit, getD_of_get? hpp,
      hbox, paddr_of_get? (pr := ppr) hpp, Ents.insert_of_lookup_none _ hlook]
    rfl
  have h4req : ∀ r, w4.req r = if w.nextReq = r then nr else w.req r := fun r => req_set w w.nextReq _ r _ rfl
  have hold : ∀ y ∈ w.ents, ¬ w.nextReq = y.rid := fun y hy => Nat.ne_of_gt (h.ridFresh y hy)
  refine Step.Returns.of_eq hstep (emit_inv (enterWindow_inv h ⟨ppr.addr, box, i, w.nextReq⟩ (retrySubUnsubW_sent p w.nextReq false isSub w4) rfl
    (fun y hy => by rw [h4req, if_neg (hold y hy)]) (fun y hy hc => hold y hy hc.symm) (Nat.lt_succ_self _) (Nat.le_succ _) (Nat.le_succ _)
    hbq (by rw [h4req, if_pos rfl]) hi0 hidf (d := w.nextDfd) (by rw [h4req, if_pos rfl]) (Nat.lt_succ_self _)
    h.dfd_new.1 h.dfd_new.2.1 h.dfd_new.2.2 hpp rfl hnl) _)

theorem apiSubscribe_inv {w : World} (h : WInv w) (p : Nat) (arg : SubArg) (qos : Int) (hex : Exists w p) (hfree : FreeId w) :
    (apiSubscribe p arg qos w).2 = none ∧ WInv (apiSubscribe p arg qos w).1 := by
  obtain ⟨ppr, hpp⟩ := hex
  obtain ⟨h1, hi0, hfr⟩ := drawn_inv h hfree
  rcases apiSubscribe_eq p arg qos w with ⟨e, he⟩ | ⟨w1, rfl, ha, ⟨e, he⟩ | ⟨bs, he⟩⟩ <;> rw [he]
  · exact ⟨rfl, emit_inv h _⟩
  · exact ⟨rfl, emit_inv h1 _⟩
  · exact registerSubUnsub_inv h1 p ppr hpp (live_of_allowed h p ppr hpp 2 (by omega) (by omega) ha).1 true _ hi0 hfr bs

theorem apiUnsubscribe_inv {w : World} (h : WInv w) (p : Nat) (arg : UnsubArg) (hex : Exists w p) (hfree : FreeId w) :
    (apiUnsubscribe p arg w).2 = none ∧ WInv (apiUnsubscribe p arg w).1 := by
  obtain ⟨ppr, hpp⟩ := hex
  obtain ⟨h1, _, _⟩ := drawn_inv h hfree
  obtain ⟨h2, hi0, hfr⟩ := drawn_inv h1 hfree
  rcases apiUnsubscribe_eq p arg w with ⟨e, he⟩ | ⟨w1, rfl, ha, ⟨e, he⟩ | ⟨w2, rfl, ⟨e, he⟩ | ⟨bs, he⟩⟩⟩ <;> rw [he]
  · exact ⟨rfl, emit_inv h _⟩
  · exact ⟨rfl, emit_inv h1 _⟩
  · exact ⟨rfl, emit_inv h2 _⟩
  · exact registerSubUnsub_inv h2 p ppr hpp (live_of_allowed h p ppr hpp 3 (by omega) (by omega) ha).1 false _ hi0 hfr bs

/-! ### connect() -/

/-- the handshake starts: CONNECT written, state CONNECTING, timeout armed, Deferred created -/
def connStartW (w : World) (p : Nat) (npr : Proto) (due ka : Nat) (log' : List Obs) : World :=
  { w with protos := w.protos.set p npr, log := log',
           timers := w.timers.set w.nextTimer ⟨due, .connack w.nextCR, .pending⟩, nextTimer := w.nextTimer + 1,
           nextDfd := w.nextDfd + 1, connReqs := w.connReqs.set w.nextCR ⟨p, ka, some w.nextDfd, w.nextTimer⟩, nextCR := w.nextCR + 1 }

theorem connStart_inv {w : World} (h : WInv w) (p : Nat) (ppr : Proto) (hpp : w.protos.get? p = some ppr)
    (hs : ppr.state = .idle) (hnl : ppr.lost = false) (cs : Bool) (v : Version) (due ka : Nat) (log' : List Obs) :
    WInv (connStartW w p { ppr with cleanStart := cs, version := v, state := .connecting, connReq := some w.nextCR } due ka log') := by
  generalize hnpr : ({ ppr with cleanStart := cs, version := v, state := .connecting, connReq := some w.nextCR } : Proto) = npr
  generalize hw' : connStartW w p npr due ka log' = w'
  subst hnpr
  have o := ProtoLocal.of_inv h hpp
  have hap := fun t' k => pending_add h.timerFresh (due := due) (k0 := .connack w.nextCR) (w' := w') (hw' ▸ rfl) t' k
  have hao := fun t' k hk' => add_other h due (.connack w.nextCR) (w' := w') (hw' ▸ rfl) t' k hk'
  have hkeep : ∀ q qr, q ≠ p → w.protos.get? q = some qr → w'.protos.get? q = some qr := fun q qr hne hq => by
    rw [← hw', show (connStartW w p _ due ka log').protos = w.protos.set p _ from rfl, Dict.get?_set, if_neg (Ne.symm hne), hq]
  have hcold : ∀ cr c, w.connReqs.get? cr = some c → w'.connReqs.get? cr = some c := fun cr c hc => by
    rw [← hw']
    exact (Dict.get?_set _ _ _ _).trans ((if_neg (Nat.ne_of_gt (h.crFresh cr c hc))).trans hc)
  have hself : w'.protos.get? p = some { ppr with cleanStart := cs, version := v, state := .connecting, connReq := some w.nextCR } := by
    rw [← hw', show (connStartW w p _ due ka log').protos = w.protos.set p _ from rfl, Dict.get?_set, if_pos rfl]
  have hfwd : ∀ q qr, w.protos.get? q = some qr → ∃ qr', w'.protos.get? q = some qr' ∧ qr'.addr = qr.addr ∧ qr'.lost = qr.lost ∧
      qr'.pingAlarm = qr.pingAlarm ∧ qr'.pingTimer = qr.pingTimer := fun q qr hq => by
    by_cases hqp : q = p
    · subst hqp
      cases hpp.symm.trans hq
      exact ⟨_, hself, rfl, rfl, rfl, rfl⟩
    · exact ⟨qr, hkeep q qr hqp hq, rfl, rfl, rfl, rfl⟩
  have hnofd := h.dfd_new.1
  have hnotp : ∀ t cr c, Pending w t (.connack cr) → w.connReqs.get? cr = some c → c.proto ≠ p := fun t cr c hp hc hown =>
    (o.connackOwned t cr c hp hc hown).elim (fun a => nomatch a.symm.trans hnl) fun a => nomatch a.1.symm.trans hs
  subst hw'
  refine { h with
    timerFresh := fresh_add h.timerFresh _ rfl rfl, firedFresh := fun d hd => Nat.lt_succ_of_lt (h.firedFresh d hd),
    dfdFresh := fun e he d hd => ⟨Nat.lt_succ_of_lt (h.dfdFresh e he d hd).1, (h.dfdFresh e he d hd).2⟩,
    noStale := fun t q rid hp => h.noStale t q rid ((hao _ _ (by simp)).mp hp),
    crFresh := ?_, protoFresh := ?_, alarm := ?_, connected := ?_, oneLive := ?_, lostIdle := ?_, pingAlarm := ?_, pingTimer := ?_,
    pingAlarmOwned := ?_, pingLoopOwned := ?_, connecting := ?_, connReq := ?_, connReqInj := ?_, connReqFresh := ?_,
    connackOwned := ?_, retryLive := ?_, connReqLive := ?_, connReqRef := ?_, subArmed := ?_, bufOk := ?_ }
  · intro cr c hc
    rcases Dict.get?_set_cases hc with ⟨rfl, -⟩ | ⟨-, hc⟩
    · exact Nat.lt_succ_self _
    · exact Nat.lt_succ_of_lt (h.crFresh cr c hc)
  · intro q qr hq
    rcases Dict.get?_set_cases hq with ⟨rfl, -⟩ | ⟨-, hq⟩
    · exact h.protoFresh q ppr hpp
    · exact h.protoFresh q qr hq
  · intro e he t ht
    obtain ⟨a1, q, qr, a2, a3, a4⟩ := h.alarm e he t ht
    obtain ⟨qr', b1, b2, _⟩ := hfwd q qr a3
    exact ⟨a1, q, qr', (hao _ _ (by simp)).mpr a2, b1, b2.trans a4⟩
  · intro q qr hq hx hl hs'
    rcases Dict.get?_set_cases hq with ⟨-, rfl⟩ | ⟨-, hq⟩
    · cases hs'
    · exact h.connected q qr hq hx hl hs'
  · intro q1 q2 r1 r2 h1 h2 l1 l2 ha
    rcases Dict.get?_set_cases h1 with ⟨rfl, rfl⟩ | ⟨-, k1⟩ <;> rcases Dict.get?_set_cases h2 with ⟨rfl, rfl⟩ | ⟨-, k2⟩
    · rfl
    · exact h.oneLive _ q2 ppr r2 hpp k2 hnl l2 ha
    · exact h.oneLive q1 _ r1 ppr k1 hpp l1 hnl ha
    · exact h.oneLive q1 q2 r1 r2 k1 k2 l1 l2 ha
  · intro q qr hq hl
    rcases Dict.get?_set_cases hq with ⟨-, rfl⟩ | ⟨-, hq⟩
    · exact nomatch hl.symm.trans hnl
    · exact h.lostIdle q qr hq hl
  · intro q qr t hq ht
    refine (hao _ _ (by simp)).mpr ?_
    rcases Dict.get?_set_cases hq with ⟨rfl, rfl⟩ | ⟨-, hq⟩
    · exact h.pingAlarm q ppr t hpp ht
    · exact h.pingAlarm q qr t hq ht
  · intro q qr l hq hl
    rcases Dict.get?_set_cases hq with ⟨rfl, rfl⟩ | ⟨-, hq⟩
    · exact nomatch (h.noLoop_of_state hpp (by simp [hs])).symm.trans hl
    · obtain ⟨a1, a2, a3, a4⟩ := h.pingTimer q qr l hq hl
      exact ⟨a1, a2, a3, fun t ht => (hao _ _ (by simp)).mpr (a4 t ht)⟩
  · intro t q hp
    obtain ⟨pr, a1, a2⟩ := h.pingAlarmOwned t q ((hao _ _ (by simp)).mp hp)
    obtain ⟨pr', b1, _, _, b4, _⟩ := hfwd q pr a1
    exact ⟨pr', b1, b4.trans a2⟩
  · intro t q hp
    obtain ⟨pr, l, a1, a2, a3⟩ := h.pingLoopOwned t q ((hao _ _ (by simp)).mp hp)
    obtain ⟨pr', b1, _, _, _, b5⟩ := hfwd q pr a1
    exact ⟨pr', l, b1, b5.trans a2, a3⟩
  · intro q qr hq hs'
    rcases Dict.get?_set_cases hq with ⟨rfl, rfl⟩ | ⟨-, hq⟩
    · refine ⟨w.nextCR, ⟨q, ka, some w.nextDfd, w.nextTimer⟩, rfl, (Dict.get?_set _ _ _ _).trans (if_pos rfl), rfl, fun d hd => ?_⟩
      cases hd
      exact ⟨hnofd, (hap _ _).mpr (.inr ⟨rfl, rfl⟩)⟩
    · obtain ⟨cr, c, i1, i2, ip, i3⟩ := h.connecting q qr hq hs'
      exact ⟨cr, c, i1, hcold cr c i2, ip, fun d hd => ⟨(i3 d hd).1, (hap _ _).mpr (.inl (i3 d hd).2)⟩⟩
  · intro cr c d hc hd hnf
    rcases Dict.get?_set_cases hc with ⟨-, rfl⟩ | ⟨-, hc⟩
    · cases hd
      exact ⟨Nat.lt_succ_self _, h.dfd_new.2.1⟩
    · exact ⟨Nat.lt_succ_of_lt (h.connReq cr c d hc hd hnf).1, (h.connReq cr c d hc hd hnf).2⟩
  · intro cr1 cr2 c1 c2 d h1 h2 hd1 hd2
    rcases Dict.get?_set_cases h1 with ⟨rfl, rfl⟩ | ⟨-, h1⟩ <;> rcases Dict.get?_set_cases h2 with ⟨rfl, rfl⟩ | ⟨-, h2⟩
    · rfl
    · cases hd1
      exact absurd hd2 (h.dfd_new.2.2 cr2 c2 h2)
    · cases hd2
      exact absurd hd1 (h.dfd_new.2.2 cr1 c1 h1)
    · exact h.connReqInj cr1 cr2 c1 c2 d h1 h2 hd1 hd2
  · intro cr c d hc hd
    rcases Dict.get?_set_cases hc with ⟨-, rfl⟩ | ⟨-, hc⟩
    · cases hd
      exact Nat.lt_succ_self _
    · exact Nat.lt_succ_of_lt (h.connReqFresh cr c d hc hd)
  · intro t cr hp
    rcases (hap t _).mp hp with hp1 | ⟨rfl, hk⟩
    · obtain ⟨c, d, a1, a2, a3, a4, pr, a5, a6⟩ := h.connackOwned t cr hp1
      exact ⟨c, d, hcold cr c a1, a2, a3, a4, pr, hkeep _ pr (hnotp t cr c hp1 a1) a5, a6⟩
    · cases hk
      exact ⟨_, w.nextDfd, (Dict.get?_set _ _ _ _).trans (if_pos rfl), rfl, hnofd, rfl, _, hself, .inr ⟨rfl, rfl⟩⟩
  · intro t q rid hp
    obtain ⟨pr, a1, a2⟩ := h.retryLive t q rid ((hao _ _ (by simp)).mp hp)
    obtain ⟨pr', b1, _, b3, _⟩ := hfwd q pr a1
    exact ⟨pr', b1, b3.trans a2⟩
  · intro q qr cr c hq hcq' hc
    rcases Dict.get?_set_cases hq with ⟨rfl, rfl⟩ | ⟨-, hq⟩
    · cases hcq'
      cases hc.symm.trans ((Dict.get?_set _ _ _ _).trans (if_pos rfl))
      exact ⟨rfl, fun d hd => by cases hd; exact hnofd⟩
    · rcases Dict.get?_set_cases hc with ⟨rfl, -⟩ | ⟨-, hc⟩
      · exact absurd (h.connReqRef q qr _ hq hcq') (Nat.lt_irrefl _)
      · exact h.connReqLive q qr cr c hq hcq' hc
  · intro q qr cr hq hcq'
    rcases Dict.get?_set_cases hq with ⟨-, rfl⟩ | ⟨-, hq⟩
    · cases hcq'
      exact Nat.lt_succ_self _
    · exact Nat.lt_succ_of_lt (h.connReqRef q qr cr hq hcq')
  · intro e he hb ha
    obtain ⟨q, qr, a1, _⟩ := h.subArmed e he hb ha
    cases a1
  · intro q qr hq
    rcases Dict.get?_set_cases hq with ⟨rfl, rfl⟩ | ⟨-, hq⟩
    · exact h.bufOk q ppr hpp
    · exact h.bufOk q qr hq

theorem connect_effect (w : World) (p : Nat) (a : ConnectArgs) (ppr : Proto) (hpp : w.protos.get? p = some ppr)
    (ha : allowed w p 0 = true) (hck : checkConnect a = true) (pdu : Bytes) (henc : a.toF.encode = .ok pdu) :
    apiConnect p a w =
      (connStartW w p { ppr with cleanStart := a.cleanStart, version := verOf a.version, state := .connecting, connReq := some w.nextCR }
        (w.now + ticks (if a.keepalive.toNat = 0 then 10 else (a.keepalive.toNat : Rat))) a.keepalive.toNat
        ((w.log ++ [.write p pdu]) ++ [.retPending w.nextDfd none]), none) := by
  unfold apiConnect
  generalize hE : a.toF.encode = E
  rw [henc] at hE; subst hE
  simp only [Step.seq, setProto, Step.mod, write, emit, World.emit, Step.read, callLater, newDfd, World.callLater, World.proto,
    Dict.get?_set, ↓reduceIte, Option.getD_some, hpp, Dict.set_set, connStartW, ha, hck, Bool.not_true, Bool.false_eq_true]

theorem apiConnect_inv {w : World} (h : WInv w) (p : Nat) (a : ConnectArgs) (hlive : Live w p) : WInv (apiConnect p a w).1 := by
  obtain ⟨ppr, hpp, hnl⟩ := hlive
  by_cases hok : allowed w p 0 = true ∧ checkConnect a = true ∧ ∃ pdu, a.toF.encode = .ok pdu
  · obtain ⟨ha, hck, pdu, henc⟩ := hok
    rw [connect_effect w p a ppr hpp ha hck pdu henc]
    exact connStart_inv h p ppr hpp ((allowed_state h p ppr hpp 0 (by omega) ha).1 rfl) hnl _ _ _ _ _
  · -- refused: `retFail` is returned, or the exception of the encoder propagates
    unfold apiConnect
    rw [read_apply]
    split
    · exact emit_inv h _
    · rename_i ha
      split
      · exact emit_inv h _
      · rename_i hck
        cases henc : a.toF.encode with
        | ok pdu => exact absurd ⟨by simpa using ha, by simpa using hck, pdu, henc⟩ hok
        | error e =>
          dsimp only
          split
          · exact emit_inv h _
          · exact h

end Mqtt
