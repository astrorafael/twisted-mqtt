import MqttVerif.Proofs.Inv
/-
  Elementary world transformations out of which the handlers are composed, each with the proof that
  it preserves the invariant (under its side conditions).

  The invariant falls into three parts with little to say to each other: `Store` (entries, identifiers,
  Deferreds), `Alarms` (in-flight entries and their retry timers) and `Net` (protocol objects, handshakes,
  the other timers). They are stated over the components they read, so that a transformation which leaves
  a part's components alone hands that part on as it is, and the generic changes (entries leave, an entry
  is added, a Deferred fires, only retry timers change, the protocol objects change) are proved once per part.
-/
namespace Mqtt

theorem pending_kind {w : World} {t : Nat} {k k' : TKind} (h1 : Pending w t k) (h2 : Pending w t k') : k = k' := by
  obtain ⟨tm, a, _, c⟩ := h1
  obtain ⟨tm', a', _, c'⟩ := h2
  cases a.symm.trans a'
  rw [← c, ← c']

theorem WInvX.lost_quiet {x : Option Nat} {w : World} (h : WInvX x w) {p : Nat} {pr : Proto} (hp : w.protos.get? p = some pr)
    (hl : pr.lost = true) (t : Nat) :
    (∀ rid, ¬ Pending w t (.retry p rid)) ∧ ¬ Pending w t (.pingLoop p) ∧ ¬ Pending w t (.pingAlarm p) := by
  obtain ⟨_, hpt, hpa⟩ := h.lostIdle p pr hp hl
  refine ⟨fun rid hc => ?_, fun hc => ?_, fun hc => ?_⟩
  · obtain ⟨pr', a, b⟩ := h.retryLive t p rid hc
    cases hp.symm.trans a
    cases hl.symm.trans b
  · obtain ⟨pr', l, a, b, _⟩ := h.pingLoopOwned t p hc
    cases hp.symm.trans a
    cases hpt.symm.trans b
  · obtain ⟨pr', a, b⟩ := h.pingAlarmOwned t p hc
    cases hp.symm.trans a
    cases hpa.symm.trans b

/-! ### the invariant in three parts -/

/-- `idOf` in terms of the request heap alone -/
def idIn (req : Nat → Req) (e : Ent) : Nat := if e.box = .queue then (req e.rid).msgId else e.key

structure Store (ents : List Ent) (req : Nat → Req) (nextReq nextDfd : Nat) (fired : List Nat) (connReqs : Dict ConnReq) : Prop where
  nodup : ents.Nodup
  ridFresh : ∀ e ∈ ents, e.rid < nextReq
  ridUnique : ∀ e1 ∈ ents, ∀ e2 ∈ ents, e1.rid = e2.rid → e1 = e2
  idUnique : ∀ e1 ∈ ents, ∀ e2 ∈ ents, idIn req e1 = idIn req e2 → idIn req e1 ≠ 0 → e1 = e2
  keyId : ∀ e ∈ ents, e.box ≠ .queue → (req e.rid).msgId = e.key ∧ e.key ≠ 0
  firedFresh : ∀ d ∈ fired, d < nextDfd
  dfdFresh : ∀ e ∈ ents, ∀ d, (req e.rid).dfd = some d → d < nextDfd ∧ d ∉ fired
  dfdSome : ∀ e ∈ ents, (req e.rid).msgId ≠ 0 → (req e.rid).dfd ≠ none
  dfdInj : ∀ e1 ∈ ents, ∀ e2 ∈ ents, ∀ d, (req e1.rid).dfd = some d → (req e2.rid).dfd = some d → e1 = e2
  connReq : ∀ cr c d, connReqs.get? cr = some c → c.dfd = some d → d ∉ fired →
      d < nextDfd ∧ ∀ e ∈ ents, (req e.rid).dfd ≠ some d
  connReqFresh : ∀ cr c d, connReqs.get? cr = some c → c.dfd = some d → d < nextDfd

/-- `R t p rid`: `t` is a pending retry timer of protocol `p` for request `rid` -/
structure Alarms (x : Option Nat) (ents : List Ent) (req : Nat → Req) (protos : Dict Proto) (R : Nat → Nat → Nat → Prop) : Prop where
  queueNoAlarm : ∀ e ∈ ents, e.box = .queue → (req e.rid).alarm = none
  alarm : ∀ e ∈ ents, ∀ t, (req e.rid).alarm = some t →
      e.box ≠ .queue ∧ ∃ p pr, R t p e.rid ∧ protos.get? p = some pr ∧ pr.addr = e.addr
  noStale : ∀ t p rid, R t p rid → ∃ e ∈ ents, e.rid = rid ∧ (req rid).alarm = some t
  connected : ∀ p pr, protos.get? p = some pr → some p ≠ x → pr.lost = false → pr.state = .connected →
      ∀ e ∈ ents, e.addr = pr.addr → e.box ≠ .queue → (req e.rid).alarm ≠ none
  retryLive : ∀ t p rid, R t p rid → ∃ pr, protos.get? p = some pr ∧ pr.lost = false
  subArmed : ∀ e ∈ ents, (e.box = .sub ∨ e.box = .unsub) → (req e.rid).alarm = none →
      ∃ p pr, x = some p ∧ protos.get? p = some pr ∧ pr.addr = e.addr

/-- `P t k`: `t` is a pending timer of kind `k`; the kinds `.retry` and `.onDisc` are not looked at -/
structure Net (protos : Dict Proto) (nextProto : Nat) (connReqs : Dict ConnReq) (nextCR : Nat) (fired : List Nat)
    (P : Nat → TKind → Prop) : Prop where
  crFresh : ∀ cr c, connReqs.get? cr = some c → cr < nextCR
  protoFresh : ∀ p pr, protos.get? p = some pr → p < nextProto
  oneLive : ∀ p q pr qr, protos.get? p = some pr → protos.get? q = some qr → pr.lost = false → qr.lost = false →
      pr.addr = qr.addr → p = q
  lostIdle : ∀ p pr, protos.get? p = some pr → pr.lost = true →
      pr.state = .idle ∧ pr.pingTimer = none ∧ pr.pingAlarm = none
  pingAlarm : ∀ p pr t, protos.get? p = some pr → pr.pingAlarm = some t → P t (.pingAlarm p)
  pingTimer : ∀ p pr l, protos.get? p = some pr → pr.pingTimer = some l →
      l.running = true ∧ pr.state = .connected ∧ pr.pingKeepalive ≠ none ∧ ∀ t, l.call = some t → P t (.pingLoop p)
  pingAlarmOwned : ∀ t p, P t (.pingAlarm p) → ∃ pr, protos.get? p = some pr ∧ pr.pingAlarm = some t
  pingLoopOwned : ∀ t p, P t (.pingLoop p) → ∃ pr l, protos.get? p = some pr ∧ pr.pingTimer = some l ∧ l.call = some t
  connecting : ∀ p pr, protos.get? p = some pr → pr.state = .connecting →
      ∃ cr c, pr.connReq = some cr ∧ connReqs.get? cr = some c ∧ c.proto = p ∧
        ∀ d, c.dfd = some d → d ∉ fired ∧ P c.alarm (.connack cr)
  connReqInj : ∀ cr cr' c c' d, connReqs.get? cr = some c → connReqs.get? cr' = some c' →
      c.dfd = some d → c'.dfd = some d → cr = cr'
  connackOwned : ∀ t cr, P t (.connack cr) →
      ∃ c d, connReqs.get? cr = some c ∧ c.dfd = some d ∧ d ∉ fired ∧ c.alarm = t ∧
        ∃ pr, protos.get? c.proto = some pr ∧ (pr.lost = true ∨ (pr.state = .connecting ∧ pr.connReq = some cr))
  connReqLive : ∀ p pr cr c, protos.get? p = some pr → pr.connReq = some cr → connReqs.get? cr = some c →
      c.proto = p ∧ ∀ d, c.dfd = some d → d ∉ fired
  connReqRef : ∀ p pr cr, protos.get? p = some pr → pr.connReq = some cr → cr < nextCR
  bufOk : ∀ p pr, protos.get? p = some pr → Bytes.WF pr.buffer

section
variable {x : Option Nat} {w : World}

theorem WInvX.store (h : WInvX x w) : Store w.ents w.req w.nextReq w.nextDfd w.fired w.connReqs :=
  ⟨h.nodup, h.ridFresh, h.ridUnique, h.idUnique, h.keyId, h.firedFresh, h.dfdFresh, h.dfdSome, h.dfdInj, h.connReq, h.connReqFresh⟩

theorem WInvX.alarms (h : WInvX x w) : Alarms x w.ents w.req w.protos (fun t p rid => Pending w t (.retry p rid)) :=
  ⟨h.queueNoAlarm, h.alarm, h.noStale, h.connected, h.retryLive, h.subArmed⟩

theorem WInvX.net (h : WInvX x w) : Net w.protos w.nextProto w.connReqs w.nextCR w.fired (Pending w) :=
  ⟨h.crFresh, h.protoFresh, h.oneLive, h.lostIdle, h.pingAlarm, h.pingTimer, h.pingAlarmOwned, h.pingLoopOwned, h.connecting,
    h.connReqInj, h.connackOwned, h.connReqLive, h.connReqRef, h.bufOk⟩

theorem WInvX.of_parts (s : Store w.ents w.req w.nextReq w.nextDfd w.fired w.connReqs)
    (a : Alarms x w.ents w.req w.protos (fun t p rid => Pending w t (.retry p rid)))
    (n : Net w.protos w.nextProto w.connReqs w.nextCR w.fired (Pending w))
    (hid : w.nextId ≤ 65535) (htf : ∀ t tm, w.timers.get? t = some tm → t < w.nextTimer)
    (hpr : w.profile = 1 ∨ w.profile = 2 ∨ w.profile = 3) : WInvX x w :=
  { s, a, n with idCounter := hid, timerFresh := htf, profileOk := hpr }

end

section parts
variable {ents ents' : List Ent} {req req' : Nat → Req} {nextReq nextReq' nextDfd nextDfd' : Nat} {fired : List Nat}
  {connReqs : Dict ConnReq}

theorem Store.mono (h : Store ents req nextReq nextDfd fired connReqs) (hnd : ents'.Nodup) (hsub : ∀ y ∈ ents', y ∈ ents)
    (hreq : ∀ r, (req' r).msgId = (req r).msgId ∧ (req' r).dfd = (req r).dfd) (hnr : nextReq ≤ nextReq') (hdf : nextDfd ≤ nextDfd') :
    Store ents' req' nextReq' nextDfd' fired connReqs where
  nodup := hnd
  ridFresh y hy := Nat.lt_of_lt_of_le (h.ridFresh y (hsub y hy)) hnr
  ridUnique y hy z hz := h.ridUnique y (hsub y hy) z (hsub z hz)
  idUnique y hy z hz := by
    simp only [idIn, (hreq _).1]
    exact h.idUnique y (hsub y hy) z (hsub z hz)
  keyId y hy := (hreq y.rid).1 ▸ h.keyId y (hsub y hy)
  firedFresh d hd := Nat.lt_of_lt_of_le (h.firedFresh d hd) hdf
  dfdFresh y hy d hd := by
    rw [(hreq y.rid).2] at hd
    exact ⟨Nat.lt_of_lt_of_le (h.dfdFresh y (hsub y hy) d hd).1 hdf, (h.dfdFresh y (hsub y hy) d hd).2⟩
  dfdSome y hy := by rw [(hreq y.rid).1, (hreq y.rid).2]; exact h.dfdSome y (hsub y hy)
  dfdInj y hy z hz d := by rw [(hreq y.rid).2, (hreq z.rid).2]; exact h.dfdInj y (hsub y hy) z (hsub z hz) d
  connReq cr c d hc hd hnf :=
    ⟨Nat.lt_of_lt_of_le (h.connReq cr c d hc hd hnf).1 hdf, fun y hy => (hreq y.rid).2 ▸ (h.connReq cr c d hc hd hnf).2 y (hsub y hy)⟩
  connReqFresh cr c d hc hd := Nat.lt_of_lt_of_le (h.connReqFresh cr c d hc hd) hdf

theorem Store.fire (h : Store ents req nextReq nextDfd fired connReqs) {d : Nat} (hd : d < nextDfd)
    (hfree : ∀ e ∈ ents, (req e.rid).dfd ≠ some d) : Store ents req nextReq nextDfd (d :: fired) connReqs :=
  { h with
    firedFresh := List.forall_mem_cons.mpr ⟨hd, h.firedFresh⟩
    dfdFresh := fun e he d' hd' => ⟨(h.dfdFresh e he d' hd').1,
      List.not_mem_cons_of_ne_of_not_mem (fun hc => hfree e he (hc ▸ hd')) (h.dfdFresh e he d' hd').2⟩
    connReq := fun cr c d' hc hd' hnf => h.connReq cr c d' hc hd' fun hc' => hnf (List.mem_cons_of_mem _ hc') }

theorem Store.extend (h : Store ents req nextReq nextDfd fired connReqs) (ne : Ent)
    (hreq : ∀ y ∈ ents, req' y.rid = req y.rid)
    (hnew : ∀ y ∈ ents, y.rid ≠ ne.rid) (hlt : ne.rid < nextReq') (hnr : nextReq ≤ nextReq') (hdf : nextDfd ≤ nextDfd')
    (hkey : ne.box ≠ .queue → (req' ne.rid).msgId = ne.key ∧ ne.key ≠ 0)
    (hidf : idIn req' ne ≠ 0 → ∀ y ∈ ents, idIn req y ≠ idIn req' ne)
    (hsome : (req' ne.rid).msgId ≠ 0 → (req' ne.rid).dfd ≠ none)
    (hd : ∀ d, (req' ne.rid).dfd = some d → d < nextDfd' ∧ d ∉ fired ∧ (∀ y ∈ ents, (req y.rid).dfd ≠ some d) ∧
      (∀ cr c, connReqs.get? cr = some c → c.dfd ≠ some d)) :
    Store (ents ++ [ne]) req' nextReq' nextDfd' fired connReqs := by
  have hmem : ∀ y, y ∈ ents ++ [ne] ↔ y ∈ ents ∨ ne = y := by intro y; simp [eq_comm]
  have hido : ∀ y ∈ ents, idIn req' y = idIn req y := by intro y hy; simp only [idIn, hreq y hy]
  constructor
  case nodup =>
    rw [List.nodup_append]
    refine ⟨h.nodup, by simp, ?_⟩
    intro y hy z hz
    simp at hz; subst hz
    intro hc; subst hc
    exact hnew _ hy rfl
  case ridFresh =>
    intro y hy
    rcases (hmem y).mp hy with hy | rfl
    · exact Nat.lt_of_lt_of_le (h.ridFresh y hy) hnr
    · exact hlt
  case ridUnique =>
    intro y hy z hz hyz
    rcases (hmem y).mp hy with hy | rfl <;> rcases (hmem z).mp hz with hz | rfl
    · exact h.ridUnique y hy z hz hyz
    · exact absurd hyz (hnew y hy)
    · exact absurd hyz.symm (hnew z hz)
    · rfl
  case idUnique =>
    intro y hy z hz hyz hne0
    rcases (hmem y).mp hy with hy | rfl <;> rcases (hmem z).mp hz with hz | rfl
    · rw [hido y hy, hido z hz] at hyz; rw [hido y hy] at hne0; exact h.idUnique y hy z hz hyz hne0
    · rw [hido y hy] at hyz; exact absurd hyz (hidf (hyz ▸ hido y hy ▸ hne0) y hy)
    · rw [hido z hz] at hyz; exact absurd hyz.symm (hidf hne0 z hz)
    · rfl
  case keyId =>
    intro y hy hq
    rcases (hmem y).mp hy with hy | rfl
    · rw [hreq y hy]; exact h.keyId y hy hq
    · exact hkey hq
  case firedFresh => exact fun d hd => Nat.lt_of_lt_of_le (h.firedFresh d hd) hdf
  case dfdFresh =>
    intro y hy d' hd'
    rcases (hmem y).mp hy with hy | rfl
    · rw [hreq y hy] at hd'
      exact ⟨Nat.lt_of_lt_of_le (h.dfdFresh y hy d' hd').1 hdf, (h.dfdFresh y hy d' hd').2⟩
    · exact ⟨(hd d' hd').1, (hd d' hd').2.1⟩
  case dfdSome =>
    intro y hy
    rcases (hmem y).mp hy with hy | rfl
    · rw [hreq y hy]; exact h.dfdSome y hy
    · exact hsome
  case dfdInj =>
    intro y hy z hz d' h1 h2
    rcases (hmem y).mp hy with hy | rfl <;> rcases (hmem z).mp hz with hz | rfl
    · rw [hreq y hy] at h1; rw [hreq z hz] at h2; exact h.dfdInj y hy z hz d' h1 h2
    · rw [hreq y hy] at h1; exact absurd h1 ((hd d' h2).2.2.1 y hy)
    · rw [hreq z hz] at h2; exact absurd h2 ((hd d' h1).2.2.1 z hz)
    · rfl
  case connReq =>
    intro cr c d' hc hd' hnf
    refine ⟨Nat.lt_of_lt_of_le (h.connReq cr c d' hc hd' hnf).1 hdf, fun y hy => ?_⟩
    rcases (hmem y).mp hy with hy | rfl
    · rw [hreq y hy]; exact (h.connReq cr c d' hc hd' hnf).2 y hy
    · exact fun hcc => (hd d' hcc).2.2.2 cr c hc hd'
  case connReqFresh => exact fun cr c d' hc hd' => Nat.lt_of_lt_of_le (h.connReqFresh cr c d' hc hd') hdf

theorem Alarms.extend {x : Option Nat} {protos : Dict Proto} {R R' N : Nat → Nat → Nat → Prop}
    (a : Alarms x ents req protos R) (ne : Ent) (hreq : ∀ y ∈ ents, req' y.rid = req y.rid)
    (hR : ∀ t q rid, R' t q rid ↔ R t q rid ∨ N t q rid)
    (hN : ∀ t q rid, N t q rid → rid = ne.rid ∧ (req' ne.rid).alarm = some t ∧ ∃ pr, protos.get? q = some pr ∧ pr.lost = false)
    (halarm : ∀ t, (req' ne.rid).alarm = some t → ne.box ≠ .queue ∧ ∃ p pr, R' t p ne.rid ∧ protos.get? p = some pr ∧ pr.addr = ne.addr)
    (harmed : ne.box ≠ .queue → (req' ne.rid).alarm ≠ none) :
    Alarms x (ents ++ [ne]) req' protos R' := by
  have hmem : ∀ y, y ∈ ents ++ [ne] ↔ y ∈ ents ∨ ne = y := by intro y; simp [eq_comm]
  constructor
  case queueNoAlarm =>
    intro y hy hq
    rcases (hmem y).mp hy with hy | rfl
    · rw [hreq y hy]; exact a.queueNoAlarm y hy hq
    · cases hal : (req' ne.rid).alarm with
      | none => rfl
      | some t => exact absurd hq (halarm t hal).1
  case alarm =>
    intro y hy t ht
    rcases (hmem y).mp hy with hy | rfl
    · rw [hreq y hy] at ht
      obtain ⟨a1, q, qr, a2, a3⟩ := a.alarm y hy t ht
      exact ⟨a1, q, qr, (hR _ _ _).mpr (Or.inl a2), a3⟩
    · exact halarm t ht
  case noStale =>
    intro t q rid hp
    rcases (hR _ _ _).mp hp with hp | hp
    · obtain ⟨y, hy, rfl, hy2⟩ := a.noStale t q rid hp
      exact ⟨y, (hmem y).mpr (Or.inl hy), rfl, by rw [hreq y hy]; exact hy2⟩
    · obtain ⟨rfl, b, _⟩ := hN t q rid hp
      exact ⟨ne, (hmem ne).mpr (Or.inr rfl), rfl, b⟩
  case connected =>
    intro q pr hp hx hl hs y hy hya hq
    rcases (hmem y).mp hy with hy | rfl
    · rw [hreq y hy]; exact a.connected q pr hp hx hl hs y hy hya hq
    · exact harmed hq
  case retryLive =>
    intro t q rid hp
    rcases (hR _ _ _).mp hp with hp | hp
    · exact a.retryLive t q rid hp
    · exact (hN t q rid hp).2.2
  case subArmed =>
    intro y hy hb ha
    rcases (hmem y).mp hy with hy | rfl
    · rw [hreq y hy] at ha; exact a.subArmed y hy hb ha
    · exact absurd ha (harmed (by rcases hb with hb | hb <;> rw [hb] <;> nofun))

theorem Alarms.leave {x : Option Nat} {protos : Dict Proto} {R R' : Nat → Nat → Nat → Prop}
    (a : Alarms x ents req protos R) {e : Ent} (hmem : ∀ y, y ∈ ents' ↔ y ∈ ents ∧ y ≠ e)
    (hR : ∀ t p rid, R' t p rid → R t p rid) (hkeep : ∀ y ∈ ents, y ≠ e → ∀ t p, R t p y.rid → R' t p y.rid)
    (hgone : ∀ t p, R' t p e.rid → (req e.rid).alarm ≠ some t) : Alarms x ents' req protos R' where
  queueNoAlarm y hy := a.queueNoAlarm y ((hmem y).mp hy).1
  alarm y hy t ht := by
    obtain ⟨hy1, hy2⟩ := (hmem y).mp hy
    obtain ⟨a1, p, pr, a2, a3⟩ := a.alarm y hy1 t ht
    exact ⟨a1, p, pr, hkeep y hy1 hy2 t p a2, a3⟩
  noStale t p rid hp := by
    obtain ⟨y, hy, rfl, hy2⟩ := a.noStale t p rid (hR _ _ _ hp)
    exact ⟨y, (hmem y).mpr ⟨hy, fun hc => hgone t p (hc ▸ hp) (hc ▸ hy2)⟩, rfl, hy2⟩
  connected p pr hp hx hl hs y hy := a.connected p pr hp hx hl hs y ((hmem y).mp hy).1
  retryLive t p rid hp := a.retryLive t p rid (hR _ _ _ hp)
  subArmed y hy := a.subArmed y ((hmem y).mp hy).1

theorem Alarms.rearm {x : Option Nat} {protos : Dict Proto} {R R' N : Nat → Nat → Nat → Prop}
    (a : Alarms x ents req protos R) {e : Ent} (he : e ∈ ents) (hreq : ∀ y ∈ ents, y ≠ e → req' y.rid = req y.rid)
    (hkeep : ∀ y ∈ ents, y ≠ e → ∀ t p, R t p y.rid → R' t p y.rid)
    (hR : ∀ t p rid, R' t p rid → R t p rid ∧ (req e.rid).alarm ≠ some t ∨ N t p rid)
    (hN : ∀ t p rid, N t p rid → rid = e.rid ∧ (req' e.rid).alarm = some t ∧ ∃ pr, protos.get? p = some pr ∧ pr.lost = false)
    (halarm : ∀ t, (req' e.rid).alarm = some t → e.box ≠ .queue ∧ ∃ p pr, R' t p e.rid ∧ protos.get? p = some pr ∧ pr.addr = e.addr)
    (hconn : ∀ p pr, protos.get? p = some pr → some p ≠ x → pr.lost = false → pr.state = .connected → e.addr = pr.addr →
      (req' e.rid).alarm ≠ none)
    (hsub : (e.box = .sub ∨ e.box = .unsub) → (req' e.rid).alarm = none →
      ∃ p pr, x = some p ∧ protos.get? p = some pr ∧ pr.addr = e.addr) : Alarms x ents req' protos R' where
  queueNoAlarm y hy hq := by
    by_cases hye : y = e
    · subst hye
      cases hal : (req' y.rid).alarm with
      | none => rfl
      | some t => exact absurd hq (halarm t hal).1
    · rw [hreq y hy hye]; exact a.queueNoAlarm y hy hq
  alarm y hy t ht := by
    by_cases hye : y = e
    · subst hye; exact halarm t ht
    · rw [hreq y hy hye] at ht
      obtain ⟨a1, p, pr, a2, a3⟩ := a.alarm y hy t ht
      exact ⟨a1, p, pr, hkeep y hy hye t p a2, a3⟩
  noStale t p rid hp := by
    rcases hR t p rid hp with ⟨hp1, hne⟩ | hn
    · obtain ⟨y, hy, rfl, hy2⟩ := a.noStale t p rid hp1
      exact ⟨y, hy, rfl, by rw [hreq y hy fun hc => hne (hc ▸ hy2)]; exact hy2⟩
    · obtain ⟨rfl, b, _⟩ := hN t p rid hn
      exact ⟨e, he, rfl, b⟩
  connected p pr hp hx hl hs y hy hya hq := by
    by_cases hye : y = e
    · subst hye; exact hconn p pr hp hx hl hs hya
    · rw [hreq y hy hye]; exact a.connected p pr hp hx hl hs y hy hya hq
  retryLive t p rid hp := (hR t p rid hp).elim (fun h => a.retryLive t p rid h.1) fun h => (hN t p rid h).2.2
  subArmed y hy hb ha := by
    by_cases hye : y = e
    · subst hye; exact hsub hb ha
    · rw [hreq y hy hye] at ha; exact a.subArmed y hy hb ha

theorem Alarms.congr {x : Option Nat} {protos : Dict Proto} {R R' : Nat → Nat → Nat → Prop} (a : Alarms x ents req protos R)
    (hR : ∀ t p rid, R' t p rid ↔ R t p rid) : Alarms x ents req protos R' :=
  { a with
    alarm := fun e he t ht => by
      obtain ⟨a1, p, pr, a2, a3⟩ := a.alarm e he t ht
      exact ⟨a1, p, pr, (hR _ _ _).mpr a2, a3⟩
    noStale := fun t p rid hp => a.noStale t p rid ((hR _ _ _).mp hp)
    retryLive := fun t p rid hp => a.retryLive t p rid ((hR _ _ _).mp hp) }

/-- the protocol objects change (and fields of request objects other than `alarm`): addresses stay, a protocol that has a
    retry timer is still live, and `connected` is shown anew -/
theorem Alarms.protos {x : Option Nat} {protos protos' : Dict Proto} {R : Nat → Nat → Nat → Prop} (a : Alarms x ents req protos R)
    (hal : ∀ r, (req' r).alarm = (req r).alarm)
    (hfwd : ∀ p pr, protos.get? p = some pr → ∃ pr', protos'.get? p = some pr' ∧ pr'.addr = pr.addr)
    (hlive : ∀ t p rid, R t p rid → ∃ pr', protos'.get? p = some pr' ∧ pr'.lost = false)
    (hconn : ∀ p pr', protos'.get? p = some pr' → some p ≠ x → pr'.lost = false → pr'.state = .connected →
      ∀ e ∈ ents, e.addr = pr'.addr → e.box ≠ .queue → (req e.rid).alarm ≠ none) : Alarms x ents req' protos' R where
  queueNoAlarm e he hq := (hal _).trans (a.queueNoAlarm e he hq)
  alarm e he t ht := by
    obtain ⟨a1, p, pr, a2, a3, a4⟩ := a.alarm e he t ((hal _).symm.trans ht)
    obtain ⟨pr', b1, b2⟩ := hfwd p pr a3
    exact ⟨a1, p, pr', a2, b1, b2.trans a4⟩
  noStale t p rid hp := by
    obtain ⟨e, he, a1, a2⟩ := a.noStale t p rid hp
    exact ⟨e, he, a1, (hal _).trans a2⟩
  connected p pr' hp hx hl hs e he ha hq := hal _ ▸ hconn p pr' hp hx hl hs e he ha hq
  retryLive := hlive
  subArmed e he hb ha := by
    obtain ⟨p, pr, a1, a2, a3⟩ := a.subArmed e he hb ((hal _).symm.trans ha)
    obtain ⟨pr', b1, b2⟩ := hfwd p pr a2
    exact ⟨p, pr', a1, b1, b2.trans a3⟩

variable {protos : Dict Proto} {nextProto nextCR : Nat} {P P' : Nat → TKind → Prop}

theorem Net.congr (h : Net protos nextProto connReqs nextCR fired P)
    (hP : ∀ t k, (∀ q r, k ≠ .retry q r) → (∀ q r, k ≠ .onDisc q r) → (P' t k ↔ P t k)) :
    Net protos nextProto connReqs nextCR fired P' :=
  have hA : ∀ t p, P' t (.pingAlarm p) ↔ P t (.pingAlarm p) := fun t p => hP t _ (fun _ _ => nofun) (fun _ _ => nofun)
  have hL : ∀ t p, P' t (.pingLoop p) ↔ P t (.pingLoop p) := fun t p => hP t _ (fun _ _ => nofun) (fun _ _ => nofun)
  have hC : ∀ t cr, P' t (.connack cr) ↔ P t (.connack cr) := fun t cr => hP t _ (fun _ _ => nofun) (fun _ _ => nofun)
  { h with
    pingAlarm := fun p pr t hp ht => (hA t p).mpr (h.pingAlarm p pr t hp ht)
    pingTimer := fun p pr l hp hl =>
      ⟨(h.pingTimer p pr l hp hl).1, (h.pingTimer p pr l hp hl).2.1, (h.pingTimer p pr l hp hl).2.2.1,
        fun t ht => (hL t p).mpr ((h.pingTimer p pr l hp hl).2.2.2 t ht)⟩
    pingAlarmOwned := fun t p hp => h.pingAlarmOwned t p ((hA t p).mp hp)
    pingLoopOwned := fun t p hp => h.pingLoopOwned t p ((hL t p).mp hp)
    connecting := fun p pr hp hs => by
      obtain ⟨cr, c, i1, i2, ip, i3⟩ := h.connecting p pr hp hs
      exact ⟨cr, c, i1, i2, ip, fun d hd => ⟨(i3 d hd).1, (hC _ cr).mpr (i3 d hd).2⟩⟩
    connackOwned := fun t cr hp => h.connackOwned t cr ((hC t cr).mp hp) }

theorem Net.fire (h : Net protos nextProto connReqs nextCR fired P) {d : Nat}
    (hcr : ∀ t cr c, P t (.connack cr) → connReqs.get? cr = some c → c.dfd ≠ some d)
    (hcl : ∀ p pr cr c, protos.get? p = some pr → pr.connReq = some cr → connReqs.get? cr = some c → c.dfd ≠ some d) :
    Net protos nextProto connReqs nextCR (d :: fired) P :=
  { h with
    connecting := fun p pr hp hs => by
      obtain ⟨cr, c, i1, i2, ip, i3⟩ := h.connecting p pr hp hs
      exact ⟨cr, c, i1, i2, ip, fun d' hd' =>
        ⟨List.not_mem_cons_of_ne_of_not_mem (fun hc => hcr _ cr c (i3 d' hd').2 i2 (hc ▸ hd')) (i3 d' hd').1, (i3 d' hd').2⟩⟩
    connackOwned := fun t cr hpd => by
      obtain ⟨c, d', a1, a2, a3, a4⟩ := h.connackOwned t cr hpd
      exact ⟨c, d', a1, a2, List.not_mem_cons_of_ne_of_not_mem (fun hc => hcr t cr c hpd a1 (hc ▸ a2)) a3, a4⟩
    connReqLive := fun p pr cr c hp hcq hc =>
      ⟨(h.connReqLive p pr cr c hp hcq hc).1, fun d' hd' =>
        List.not_mem_cons_of_ne_of_not_mem (fun he => hcl p pr cr c hp hcq hc (he ▸ hd')) ((h.connReqLive p pr cr c hp hcq hc).2 d' hd')⟩ }

end parts

/-! ### timers dying and being born -/

theorem pending_dead {w w' : World} {t : Nat} {tm : Timer} (hw : w'.timers = w.timers.set t tm) (hst : tm.status ≠ .pending)
    (t' : Nat) (k : TKind) : Pending w' t' k ↔ (Pending w t' k ∧ t' ≠ t) := by
  simp only [Pending, hw, Dict.get?_set]
  by_cases htt : t = t'
  · subst htt; simp [hst]
  · simp [htt]; intro _ _ _ _; exact fun hc => htt hc.symm

theorem kill_other {w w' : World} {t : Nat} {tm : Timer} (hw : w'.timers = w.timers.set t tm) (hst : tm.status ≠ .pending)
    {k0 : TKind} (hp0 : Pending w t k0) (t' : Nat) (k : TKind) (hk : k ≠ k0) :
    Pending w' t' k ↔ Pending w t' k := by
  rw [pending_dead hw hst]
  constructor
  · exact fun h => h.1
  · intro h; exact ⟨h, fun hc => by subst hc; exact hk (pending_kind h hp0)⟩

theorem fresh_set {w w' : World} (hf : ∀ t tm, w.timers.get? t = some tm → t < w.nextTimer) {t : Nat} {tm : Timer}
    (htm : w.timers.get? t = some tm) (tm' : Timer) (hw : w'.timers = w.timers.set t tm') (hn : w'.nextTimer = w.nextTimer) :
    ∀ t' tm'', w'.timers.get? t' = some tm'' → t' < w'.nextTimer := by
  intro t' tm'' ht'
  rw [hn]; rw [hw, Dict.get?_set] at ht'
  split at ht'
  · rename_i heq; subst heq; exact hf _ _ htm
  · exact hf _ _ ht'

theorem pending_add {w w' : World} (hf : ∀ t tm, w.timers.get? t = some tm → t < w.nextTimer) {due : Nat} {k0 : TKind}
    (hw : w'.timers = w.timers.set w.nextTimer ⟨due, k0, .pending⟩) (t' : Nat) (k : TKind) :
    Pending w' t' k ↔ (Pending w t' k ∨ (t' = w.nextTimer ∧ k = k0)) := by
  have hfresh : w.timers.get? w.nextTimer = none := by
    cases hg : w.timers.get? w.nextTimer with
    | none => rfl
    | some tm => exact absurd (hf _ _ hg) (Nat.lt_irrefl _)
  simp only [Pending, hw, Dict.get?_set]
  by_cases h1 : w.nextTimer = t'
  · subst h1
    simp only [↓reduceIte, hfresh]
    constructor
    · rintro ⟨tm, a, b, c⟩; injection a with a; subst a; exact Or.inr ⟨trivial, c.symm⟩
    · rintro (⟨tm, a, _⟩ | ⟨_, c⟩)
      · cases a
      · exact ⟨_, rfl, rfl, c.symm⟩
  · simp only [h1, ↓reduceIte]
    constructor
    · intro hh; exact Or.inl hh
    · rintro (hh | ⟨hc, _⟩)
      · exact hh
      · exact absurd hc.symm h1

theorem add_other {x : Option Nat} {w w' : World} (h : WInvX x w) (due : Nat) (k0 : TKind)
    (hw : w'.timers = w.timers.set w.nextTimer ⟨due, k0, .pending⟩) (t' : Nat) (k : TKind) (hk : k ≠ k0) :
    Pending w' t' k ↔ Pending w t' k := by
  rw [pending_add h.timerFresh hw]
  constructor
  · rintro (h' | ⟨_, h'⟩)
    · exact h'
    · exact absurd h' hk
  · exact Or.inl

theorem fresh_add {w w' : World} (hf : ∀ t tm, w.timers.get? t = some tm → t < w.nextTimer) (tm' : Timer)
    (hw : w'.timers = w.timers.set w.nextTimer tm') (hn : w'.nextTimer = w.nextTimer + 1) :
    ∀ t' tm'', w'.timers.get? t' = some tm'' → t' < w'.nextTimer := by
  intro t' tm'' ht'
  rw [hn]; rw [hw, Dict.get?_set] at ht'
  split at ht'
  · omega
  · exact Nat.lt_succ_of_lt (hf _ _ ht')

theorem mem_remove_iff {x : Option Nat} {w : World} (h : WInvX x w) {e : Ent} (he : e ∈ w.ents) (hq : e.box ≠ .queue) (y : Ent) :
    y ∈ Ents.remove w.ents e.addr e.box e.key ↔ y ∈ w.ents ∧ y ≠ e := by
  -- (address, window, key) determines the entry, because the key is the packet identifier
  have hku : Ents.KeyUnique w.ents := by
    intro e1 h1 e2 h2 _ hb hk hq
    have k1 := h.keyId e1 h1 hq
    apply h.idUnique e1 h1 e2 h2
    · simp [idOf, hq, (by rw [← hb]; exact hq : e2.box ≠ .queue), hk]
    · simp [idOf, hq, k1.2]
  exact Ents.mem_remove_iff hku h.nodup he hq y

/-! ### changes that the invariant does not look at -/

/-- two worlds that agree on everything the invariant mentions -/
structure SameCore (w w' : World) : Prop where
  ents : w'.ents = w.ents
  reqs : ∀ r, (w'.req r).msgId = (w.req r).msgId ∧ (w'.req r).dfd = (w.req r).dfd ∧ (w'.req r).alarm = (w.req r).alarm
  /-- the same timers up to their due times (which the invariant does not mention) -/
  timers : ∀ t, (∀ tm', w'.timers.get? t = some tm' → ∃ tm, w.timers.get? t = some tm ∧ tm'.kind = tm.kind ∧ tm'.status = tm.status) ∧
    (∀ tm, w.timers.get? t = some tm → ∃ tm', w'.timers.get? t = some tm' ∧ tm'.kind = tm.kind ∧ tm'.status = tm.status)
  fired : w'.fired = w.fired
  connReqs : w'.connReqs = w.connReqs
  nextId : w'.nextId ≤ 65535
  nextReq : w.nextReq ≤ w'.nextReq
  nextTimer : w'.nextTimer = w.nextTimer
  nextDfd : w.nextDfd ≤ w'.nextDfd
  nextCR : w'.nextCR = w.nextCR
  nextProto : w'.nextProto = w.nextProto
  profile : w'.profile = w.profile
  protos : ∀ p, (∀ pr', w'.protos.get? p = some pr' → ∃ pr, w.protos.get? p = some pr ∧ pr'.addr = pr.addr ∧ pr'.state = pr.state ∧
      pr'.lost = pr.lost ∧ pr'.pingTimer = pr.pingTimer ∧ pr'.pingAlarm = pr.pingAlarm ∧ pr'.pingKeepalive = pr.pingKeepalive ∧ pr'.connReq = pr.connReq ∧ (Bytes.WF pr.buffer → Bytes.WF pr'.buffer)) ∧
    (∀ pr, w.protos.get? p = some pr → ∃ pr', w'.protos.get? p = some pr')

theorem WInvX.sameCore {x : Option Nat} {w w' : World} (h : WInvX x w) (s : SameCore w w') : WInvX x w' := by
  have hp : ∀ t k, Pending w' t k ↔ Pending w t k := by
    intro t k
    constructor
    · rintro ⟨tm', a, b, c⟩
      obtain ⟨tm, a1, a2, a3⟩ := (s.timers t).1 tm' a
      exact ⟨tm, a1, by rw [← a3]; exact b, by rw [← a2]; exact c⟩
    · rintro ⟨tm, a, b, c⟩
      obtain ⟨tm', a1, a2, a3⟩ := (s.timers t).2 tm a
      exact ⟨tm', a1, by rw [a3]; exact b, by rw [a2]; exact c⟩
  have hpr := fun p => (s.protos p).1
  have hfw : ∀ p pr, w.protos.get? p = some pr → ∃ pr', w'.protos.get? p = some pr' ∧ pr'.addr = pr.addr ∧ pr'.state = pr.state ∧
      pr'.lost = pr.lost ∧ pr'.pingTimer = pr.pingTimer ∧ pr'.pingAlarm = pr.pingAlarm ∧ pr'.connReq = pr.connReq := by
    intro p pr a
    obtain ⟨pr', a'⟩ := (s.protos p).2 pr a
    obtain ⟨pr2, a2, b, c, d, e, f, _, g, _⟩ := hpr p pr' a'
    cases a.symm.trans a2
    exact ⟨pr', a', b, c, d, e, f, g⟩
  have hst : Store w'.ents w'.req w'.nextReq w'.nextDfd w'.fired w'.connReqs := by
    rw [s.fired, s.connReqs]
    exact h.store.mono (s.ents ▸ h.nodup) (fun y hy => s.ents ▸ hy) (fun r => ⟨(s.reqs r).1, (s.reqs r).2.1⟩) s.nextReq s.nextDfd
  refine WInvX.of_parts hst ?alarms ?net s.nextId ?tf (s.profile ▸ h.profileOk)
  case tf =>
    intro t tm' ht
    obtain ⟨tm, a, _⟩ := (s.timers t).1 tm' ht
    rw [s.nextTimer]; exact h.timerFresh t tm a
  case alarms =>
    rw [s.ents]
    refine (h.alarms.congr (R' := fun t p rid => Pending w' t (.retry p rid)) fun t p rid => hp t _).protos
      (fun r => (s.reqs r).2.2) (fun p pr a => ?_) (fun t p rid hpd => ?_) fun p pr' hp' hx hl hs => ?_
    · obtain ⟨pr', a', b, _⟩ := hfw p pr a
      exact ⟨pr', a', b⟩
    · obtain ⟨pr, a, b⟩ := h.retryLive t p rid ((hp _ _).mp hpd)
      obtain ⟨pr', a', _, _, d2, _⟩ := hfw p pr a
      exact ⟨pr', a', d2.trans b⟩
    · obtain ⟨pr, a, b, c, d, _⟩ := hpr p pr' hp'
      rw [b]
      exact h.connected p pr a hx (d ▸ hl) (c ▸ hs)
  case net =>
    rw [s.connReqs, s.fired, s.nextCR, s.nextProto]
    constructor
    case crFresh => exact h.crFresh
    case protoFresh => intro p pr' hp'; obtain ⟨pr, a, _⟩ := hpr p pr' hp'; exact h.protoFresh p pr a
    case oneLive =>
      intro p q pr' qr' hp' hq' hl1 hl2 ha
      obtain ⟨pr, a1, b1, _, d1, _⟩ := hpr p pr' hp'
      obtain ⟨qr, a2, b2, _, d2, _⟩ := hpr q qr' hq'
      exact h.oneLive p q pr qr a1 a2 (by rw [← d1]; exact hl1) (by rw [← d2]; exact hl2) (by rw [← b1, ← b2]; exact ha)
    case lostIdle =>
      intro p pr' hp' hl
      obtain ⟨pr, a, _, c, d, e, f, _⟩ := hpr p pr' hp'
      have := h.lostIdle p pr a (by rw [← d]; exact hl)
      rw [c, e, f]; exact this
    case pingAlarm =>
      intro p pr' t hp' ht
      obtain ⟨pr, a, _, _, _, _, f, _⟩ := hpr p pr' hp'
      exact (hp _ _).mpr (h.pingAlarm p pr t a (by rw [← f]; exact ht))
    case pingTimer =>
      intro p pr' l hp' hl
      obtain ⟨pr, a, _, c, _, e, _, g, _⟩ := hpr p pr' hp'
      obtain ⟨i1, i2, i3, i4⟩ := h.pingTimer p pr l a (by rw [← e]; exact hl)
      exact ⟨i1, by rw [c]; exact i2, by rw [g]; exact i3, fun t ht => (hp _ _).mpr (i4 t ht)⟩
    case pingAlarmOwned =>
      intro t p hpd
      obtain ⟨pr, a, b⟩ := h.pingAlarmOwned t p ((hp _ _).mp hpd)
      obtain ⟨pr', a', _, _, _, _, f, _⟩ := hfw p pr a
      exact ⟨pr', a', f.trans b⟩
    case pingLoopOwned =>
      intro t p hpd
      obtain ⟨pr, l, a, b, c⟩ := h.pingLoopOwned t p ((hp _ _).mp hpd)
      obtain ⟨pr', a', _, _, _, e, _⟩ := hfw p pr a
      exact ⟨pr', l, a', e.trans b, c⟩
    case connecting =>
      intro p pr' hp' hs
      obtain ⟨pr, a, _, c, _, _, _, _, g, _⟩ := hpr p pr' hp'
      obtain ⟨cr, cc, i1, i2, ip, i3⟩ := h.connecting p pr a (by rw [← c]; exact hs)
      exact ⟨cr, cc, by rw [g]; exact i1, i2, ip, fun d hd => ⟨(i3 d hd).1, (hp _ _).mpr (i3 d hd).2⟩⟩
    case connReqInj => exact h.connReqInj
    case connackOwned =>
      intro t cr hpd
      obtain ⟨c, d, a1, a2, a3, a4, pr, a5, a6⟩ := h.connackOwned t cr ((hp _ _).mp hpd)
      obtain ⟨pr', b', _, c2, d2, _, _, g2⟩ := hfw c.proto pr a5
      exact ⟨c, d, a1, a2, a3, a4, pr', b', by rw [d2, c2, g2]; exact a6⟩
    case connReqLive =>
      intro p pr' cr c hp' hcq
      obtain ⟨pr, a, _, _, _, _, _, _, g, _⟩ := hpr p pr' hp'
      exact h.connReqLive p pr cr c a (by rw [← g]; exact hcq)
    case connReqRef =>
      intro p pr' cr hp' hcq
      obtain ⟨pr, a, _, _, _, _, _, _, g, _⟩ := hpr p pr' hp'
      exact h.connReqRef p pr cr a (by rw [← g]; exact hcq)
    case bufOk =>
      intro p pr' hp'
      obtain ⟨pr, a, _, _, _, _, _, _, _, g⟩ := hpr p pr' hp'
      exact g (h.bufOk p pr a)

/-- free to differ: log, clock, ghost counters, inbound store, the fields of request objects other than msgId/dfd/alarm -/
theorem sameCore_of (w w' : World) (hents : w'.ents = w.ents)
    (hreqs : ∀ r, (w'.req r).msgId = (w.req r).msgId ∧ (w'.req r).dfd = (w.req r).dfd ∧ (w'.req r).alarm = (w.req r).alarm)
    (htimers : w'.timers = w.timers) (hfired : w'.fired = w.fired) (hcr : w'.connReqs = w.connReqs)
    (hprotos : w'.protos = w.protos) (hid : w'.nextId = w.nextId) (hidle : w.nextId ≤ 65535) (h1 : w'.nextReq = w.nextReq) (h2 : w'.nextTimer = w.nextTimer)
    (h3 : w'.nextDfd = w.nextDfd) (h4 : w'.nextCR = w.nextCR) (h5 : w'.nextProto = w.nextProto) (h6 : w'.profile = w.profile) : SameCore w w' :=
  { ents := hents, reqs := hreqs,
    timers := fun t => by
      rw [htimers]
      exact ⟨fun tm h => ⟨tm, h, rfl, rfl⟩, fun tm h => ⟨tm, h, rfl, rfl⟩⟩,
    fired := hfired, connReqs := hcr, nextId := by rw [hid]; exact hidle,
    nextReq := by rw [h1]; exact Nat.le_refl _, nextTimer := h2, nextDfd := by rw [h3]; exact Nat.le_refl _, nextCR := h4, nextProto := h5, profile := h6,
    protos := fun p => by
      rw [hprotos]
      exact ⟨fun pr' h => ⟨pr', h, rfl, rfl, rfl, rfl, rfl, rfl, rfl, id⟩, fun pr h => ⟨pr, h⟩⟩ }

/-! ### an in-flight entry leaves its window: alarm cancelled, entry removed -/

def cancelT (w : World) (t : Nat) : Dict Timer :=
  w.timers.set t { (w.timers.get? t).getD default with status := .cancelled }

def dropArmed (w : World) (e : Ent) (t : Nat) : World :=
  { w with timers := cancelT w t, ents := Ents.remove w.ents e.addr e.box e.key }

theorem WInvX.cancel_own {x : Option Nat} {w w' : World} (h : WInvX x w) {e : Ent} (he : e ∈ w.ents) {t : Nat}
    (ht : (w.req e.rid).alarm = some t) (hw : w'.timers = cancelT w t) (hn : w'.nextTimer = w.nextTimer) :
    (∀ t' p rid, Pending w' t' (.retry p rid) → Pending w t' (.retry p rid) ∧ (w.req e.rid).alarm ≠ some t') ∧
    (∀ y ∈ w.ents, y ≠ e → ∀ t' p, Pending w t' (.retry p y.rid) → Pending w' t' (.retry p y.rid)) ∧
    (∀ t' k, (∀ q r, k ≠ .retry q r) → (Pending w' t' k ↔ Pending w t' k)) ∧
    ∀ t' tm, w'.timers.get? t' = some tm → t' < w'.nextTimer := by
  obtain ⟨_, p0, _, hpe, _⟩ := h.alarm e he t ht
  have ⟨tm, htm, _, _⟩ := hpe
  have hpending : ∀ t' k, Pending w' t' k ↔ (Pending w t' k ∧ t' ≠ t) := pending_dead hw (by simp)
  have hlive : ∀ {t' k}, Pending w t' k → k ≠ .retry p0 e.rid → Pending w' t' k :=
    fun hp hk => (hpending _ _).mpr ⟨hp, fun hc => hk (pending_kind hp (hc ▸ hpe))⟩
  exact ⟨fun t' p rid hp => ⟨((hpending _ _).mp hp).1, fun hc => ((hpending _ _).mp hp).2 (Option.some.inj (ht.symm.trans hc)).symm⟩,
    fun y hy hye t' p hp => hlive hp fun hc => hye (h.ridUnique y hy e he (TKind.retry.inj hc).2),
    fun t' k hk => ⟨fun hp => ((hpending _ _).mp hp).1, fun hp => hlive hp (hk _ _)⟩,
    fresh_set h.timerFresh htm _ hw hn⟩

theorem dropArmed_inv {x : Option Nat} {w : World} (h : WInvX x w) {e : Ent} (he : e ∈ w.ents) (hq : e.box ≠ .queue) {t : Nat}
    (ht : (w.req e.rid).alarm = some t) : WInvX x (dropArmed w e t) := by
  have hmem : ∀ y, y ∈ (dropArmed w e t).ents ↔ y ∈ w.ents ∧ y ≠ e := mem_remove_iff h he hq
  obtain ⟨hR, hkeep, hN, hf⟩ := h.cancel_own he ht (w' := dropArmed w e t) rfl rfl
  exact WInvX.of_parts
    (h.store.mono (Ents.remove_nodup h.nodup _ _ _) (fun y hy => ((hmem y).mp hy).1) (fun _ => ⟨rfl, rfl⟩) (Nat.le_refl _) (Nat.le_refl _))
    (h.alarms.leave hmem (fun _ _ _ hp => (hR _ _ _ hp).1) hkeep fun _ _ hp => (hR _ _ _ hp).2)
    (h.net.congr fun t' k hk _ => hN t' k hk) h.idCounter hf h.profileOk

theorem dropArmed_mem {x : Option Nat} {w : World} (h : WInvX x w) {e : Ent} (he : e ∈ w.ents) (hq : e.box ≠ .queue) (t : Nat) (y : Ent) :
    y ∈ (dropArmed w e t).ents ↔ y ∈ w.ents ∧ y ≠ e := mem_remove_iff h he hq y

/-! ### a Deferred that no unfinished request and no pending handshake owns is fired -/

def fireD (w : World) (d : Nat) (o : Obs) : World := { w with fired := d :: w.fired, log := w.log ++ [o] }

theorem fireD_inv {x : Option Nat} {w : World} (h : WInvX x w) {d : Nat} (hd : d < w.nextDfd)
    (hfree : ∀ e ∈ w.ents, (w.req e.rid).dfd ≠ some d)
    (hcr : ∀ t cr c, Pending w t (.connack cr) → w.connReqs.get? cr = some c → c.dfd ≠ some d)
    (hcl : ∀ p pr cr c, w.protos.get? p = some pr → pr.connReq = some cr → w.connReqs.get? cr = some c → c.dfd ≠ some d) (o : Obs) :
    WInvX x (fireD w d o) :=
  WInvX.of_parts (h.store.fire hd hfree) h.alarms (h.net.fire hcr hcl) h.idCounter h.timerFresh h.profileOk

theorem WInvX.dfd_of_window {x : Option Nat} {w : World} (h : WInvX x w) {e : Ent} (he : e ∈ w.ents) (hq : e.box ≠ .queue) :
    ∃ d, (w.req e.rid).dfd = some d :=
  Option.ne_none_iff_exists'.mp (h.dfdSome e he ((h.keyId e he hq).1 ▸ (h.keyId e he hq).2))

theorem WInvX.dfd_new {x : Option Nat} {w : World} (h : WInvX x w) : w.nextDfd ∉ w.fired ∧
    (∀ y ∈ w.ents, (w.req y.rid).dfd ≠ some w.nextDfd) ∧ ∀ cr c, w.connReqs.get? cr = some c → c.dfd ≠ some w.nextDfd :=
  ⟨fun hc => Nat.lt_irrefl _ (h.firedFresh _ hc), fun y hy hc => Nat.lt_irrefl _ (h.dfdFresh y hy _ hc).1,
    fun cr c hc hcd => Nat.lt_irrefl _ (h.connReqFresh cr c _ hc hcd)⟩

theorem WInvX.dfd_owned {x : Option Nat} {w : World} (h : WInvX x w) {e : Ent} (he : e ∈ w.ents) {d : Nat}
    (hd : (w.req e.rid).dfd = some d) :
    (∀ y ∈ w.ents, y ≠ e → (w.req y.rid).dfd ≠ some d) ∧ ∀ cr c, w.connReqs.get? cr = some c → c.dfd ≠ some d :=
  ⟨fun y hy hye hc => hye (h.dfdInj y hy e he d hc hd), fun cr c hc hcd => (h.connReq cr c d hc hcd (h.dfdFresh e he d hd).2).2 e he hd⟩

/-! ### an entry without alarm leaves its container -/

theorem dropQuiet_inv {x : Option Nat} {w : World} (h : WInvX x w) {e : Ent} (hal : (w.req e.rid).alarm = none)
    (es' : List Ent) (hnd : es'.Nodup) (hmem : ∀ y, y ∈ es' ↔ y ∈ w.ents ∧ y ≠ e) :
    WInvX x { w with ents := es' } :=
  WInvX.of_parts (h.store.mono hnd (fun y hy => ((hmem y).mp hy).1) (fun _ => ⟨rfl, rfl⟩) (Nat.le_refl _) (Nat.le_refl _))
    (h.alarms.leave hmem (fun _ _ _ => id) (fun _ _ _ _ _ => id) fun _ _ _ => hal ▸ nofun) h.net h.idCounter h.timerFresh h.profileOk

theorem req_of_reqs {w w' : World} (h : w'.reqs = w.reqs) (r : Nat) : w'.req r = w.req r := by simp [World.req, h]

theorem req_set (w : World) (r : Nat) (v : Req) (r' : Nat) (w' : World) (hw : w'.reqs = w.reqs.set r v) :
    w'.req r' = if r = r' then v else w.req r' := by
  simp only [World.req, hw, Dict.get?_set]; split <;> simp

/-! ### the alarm of an in-flight entry is cancelled and cleared (connection loss) -/

def disarm (w : World) (e : Ent) (t : Nat) : World :=
  { w with timers := cancelT w t, reqs := w.reqs.set e.rid { w.req e.rid with alarm := none } }

theorem disarm_inv {x : Option Nat} {w : World} (h : WInvX x w) {e : Ent} (he : e ∈ w.ents) {t : Nat}
    (ht : (w.req e.rid).alarm = some t)
    (hconn : ∀ p pr, w.protos.get? p = some pr → some p ≠ x → pr.lost = false → pr.state = .connected → pr.addr ≠ e.addr)
    (hsub : (e.box = .sub ∨ e.box = .unsub) → ∃ p pr, x = some p ∧ w.protos.get? p = some pr ∧ pr.addr = e.addr) :
    WInvX x (disarm w e t) := by
  obtain ⟨hR, hkeep, hN, hf⟩ := h.cancel_own he ht (w' := disarm w e t) rfl rfl
  have hreq : ∀ r, (disarm w e t).req r = if e.rid = r then { w.req e.rid with alarm := none } else w.req r :=
    fun r => req_set w e.rid _ r _ rfl
  have hreq' : ∀ y ∈ w.ents, y ≠ e → (disarm w e t).req y.rid = w.req y.rid := by
    intro y hy hne'
    rw [hreq]; split
    · rename_i heq; exact absurd (h.ridUnique e he y hy heq) (Ne.symm hne')
    · rfl
  have hreqe : (disarm w e t).req e.rid = { w.req e.rid with alarm := none } := by rw [hreq]; simp
  have hmsg : ∀ r, ((disarm w e t).req r).msgId = (w.req r).msgId ∧ ((disarm w e t).req r).dfd = (w.req r).dfd := by
    intro r; rw [hreq]; split
    · rename_i heq; subst heq; exact ⟨rfl, rfl⟩
    · exact ⟨rfl, rfl⟩
  exact WInvX.of_parts (h.store.mono h.nodup (fun _ hy => hy) hmsg (Nat.le_refl _) (Nat.le_refl _))
    (h.alarms.rearm (N := fun _ _ _ => False) he hreq' hkeep (fun t' p rid hp => .inl (hR _ _ _ hp)) nofun
      (fun t' ht' => by rw [hreqe] at ht'; cases ht')
      (fun p pr hp hx hl hs hya => absurd hya.symm (hconn p pr hp hx hl hs)) fun hb _ => hsub hb)
    (h.net.congr fun t' k hk _ => hN t' k hk) h.idCounter hf h.profileOk

/-! ### an in-flight entry is transmitted and armed (first transmission, resumption, or re-arming on expiry) -/

/-- the world in which the retry helper runs: as is (first transmission, resumption) or, on expiry, with the
    entry's old alarm marked as called and the clock advanced by `fireTimer` -/
def marked (w : World) (old : Option Nat) (n : Nat) : World :=
  { w with now := n,
           timers := match old with
                     | none => w.timers
                     | some t => w.timers.set t { (w.timers.get? t).getD default with status := .called } }

theorem marked_none (w : World) : marked w none w.now = w := rfl
theorem marked_req (w : World) (old : Option Nat) (n r : Nat) : (marked w old n).req r = w.req r := rfl
theorem marked_proto (w : World) (old : Option Nat) (n p : Nat) : (marked w old n).proto p = w.proto p := rfl

structure MarkedFacts (w : World) (old : Option Nat) (n : Nat) (w0 : World) : Prop where
  ents : w0.ents = w.ents
  req : ∀ r, w0.req r = w.req r
  proto : ∀ p, w0.proto p = w.proto p
  paddr : ∀ p, w0.paddr p = w.paddr p
  timers : w0.timers = (marked w old n).timers
  nextTimer : w0.nextTimer = w.nextTimer
  fired : w0.fired = w.fired
  connReqs : w0.connReqs = w.connReqs
  protos : w0.protos = w.protos
  nextId : w0.nextId = w.nextId
  nextReq : w0.nextReq = w.nextReq
  nextDfd : w0.nextDfd = w.nextDfd
  nextCR : w0.nextCR = w.nextCR
  nextProto : w0.nextProto = w.nextProto
  profile : w0.profile = w.profile

theorem pending_marked (w : World) (old : Option Nat) (n t : Nat) (k : TKind) :
    Pending (marked w old n) t k ↔ (Pending w t k ∧ old ≠ some t) := by
  cases old with
  | none => exact ⟨fun h => ⟨h, nofun⟩, fun h => h.1⟩
  | some t0 =>
    rw [pending_dead (w := w) (t := t0) rfl (by simp)]
    exact and_congr_right' ⟨fun h hc => h (Option.some.inj hc).symm, fun h hc => h (hc ▸ rfl)⟩

theorem Sent.msgId_dfd {p rid : Nat} {w w' : World} (s : Sent p rid w w') (r : Nat) :
    (w'.req r).msgId = (w.req r).msgId ∧ (w'.req r).dfd = (w.req r).dfd := by
  by_cases hr : rid = r
  · subst hr; exact ⟨s.kept.2.1, s.kept.2.2.2.1⟩
  · rw [s.req_of_ne hr]; exact ⟨rfl, rfl⟩

theorem Sent.timer_of_id {p rid : Nat} {w w' : World} (s : Sent p rid w w') (hm : (w.req rid).msgId ≠ 0) :
    ∃ due, w.now ≤ due ∧ w'.timers = w.timers.set w.nextTimer ⟨due, .retry p rid, .pending⟩ ∧
      w'.nextTimer = w.nextTimer + 1 ∧ (w'.req rid).alarm = some w.nextTimer :=
  s.timer.resolve_left fun h0 => hm h0.2.2.2

theorem Sent.armed {p rid : Nat} {w w' : World} (s : Sent p rid w w') (hm : (w.req rid).msgId ≠ 0) : (w'.req rid).alarm ≠ none := by
  obtain ⟨_, _, _, _, ha⟩ := s.timer_of_id hm
  rw [ha]; simp

theorem Sent.alarm_mono {p rid : Nat} {w w' : World} (s : Sent p rid w w') {r : Nat} (hr : (w.req r).alarm ≠ none) :
    (w'.req r).alarm ≠ none := by
  by_cases h : rid = r
  · subst h
    rcases s.timer with ⟨_, _, ha, _⟩ | ⟨_, _, _, _, ha⟩
    · rw [ha]; exact hr
    · rw [ha]; simp
  · rw [s.req_of_ne h]; exact hr

theorem Sent.sameCore {p rid : Nat} {w w' : World} (s : Sent p rid w w') (ht : w'.timers = w.timers) (hn : w'.nextTimer = w.nextTimer)
    (ha : (w'.req rid).alarm = (w.req rid).alarm) (hid : w.nextId ≤ 65535) : SameCore w w' := by
  refine sameCore_of w w' s.ents (fun r => ⟨(s.msgId_dfd r).1, (s.msgId_dfd r).2, ?_⟩) ht s.fired s.connReqs s.protos
    s.nextId hid s.nextReq hn s.nextDfd s.nextCR s.nextProto s.profile
  by_cases hr : rid = r
  · subst hr; exact ha
  · rw [s.req_of_ne hr]

theorem sent_inv {x : Option Nat} {w w' : World} (h : WInvX x w) {e : Ent} (he : e ∈ w.ents) (hq : e.box ≠ .queue)
    {p : Nat} {old : Option Nat} {n : Nat} (hold : (w.req e.rid).alarm = old) {ppr : Proto} (hpp : w.protos.get? p = some ppr)
    (haddr : ppr.addr = e.addr) (hlive : ppr.lost = false) (s : Sent p e.rid (marked w old n) w') : WInvX x w' := by
  have hk := h.keyId e he hq
  -- an entry of a window has an identifier, so the transmission arms a timer
  obtain ⟨due, _, htim, hnt, hr3⟩ : ∃ due, n ≤ due ∧ w'.timers = (marked w old n).timers.set w.nextTimer ⟨due, .retry p e.rid, .pending⟩ ∧
      w'.nextTimer = w.nextTimer + 1 ∧ (w'.req e.rid).alarm = some w.nextTimer := s.timer_of_id (hk.1.symm ▸ hk.2)
  have hown : ∀ t0, old = some t0 → ∃ p0, Pending w t0 (.retry p0 e.rid) := by
    intro t0 h0; obtain ⟨_, p0, _, a, _⟩ := h.alarm e he t0 (by rw [hold, h0]); exact ⟨p0, a⟩
  have hfm : ∀ t tm, (marked w old n).timers.get? t = some tm → t < w.nextTimer := by
    cases old with
    | none => exact h.timerFresh
    | some t0 =>
      obtain ⟨_, tm0, a, _⟩ := hown t0 rfl
      exact fresh_set (w' := marked w (some t0) n) h.timerFresh a _ rfl rfl
  have hpending : ∀ t' k, Pending w' t' k ↔ (Pending w t' k ∧ old ≠ some t') ∨ (t' = w.nextTimer ∧ k = .retry p e.rid) :=
    fun t' k => (pending_add (w := marked w old n) hfm htim t' k).trans (or_congr_left (pending_marked w old n t' k))
  have hpold : ∀ {t' k}, Pending w t' k → (∀ p0, k ≠ .retry p0 e.rid) → (Pending w' t' k) := by
    intro t' k hp hk
    refine (hpending _ _).mpr (Or.inl ⟨hp, fun hc => ?_⟩)
    obtain ⟨p0, a⟩ := hown t' hc
    exact hk p0 (pending_kind hp a)
  have hreq' : ∀ y ∈ w.ents, y ≠ e → w'.req y.rid = w.req y.rid :=
    fun y hy hne => s.req_of_ne fun heq => hne (h.ridUnique e he y hy heq).symm
  have hst : Store w'.ents w'.req w'.nextReq w'.nextDfd w'.fired w'.connReqs := by
    rw [s.ents, s.nextReq, s.nextDfd, s.fired, s.connReqs]
    exact h.store.mono h.nodup (fun _ hy => hy) s.msgId_dfd (Nat.le_refl _) (Nat.le_refl _)
  have hnet : Net w'.protos w'.nextProto w'.connReqs w'.nextCR w'.fired (Pending w') := by
    rw [s.protos, s.nextProto, s.connReqs, s.nextCR, s.fired]
    refine h.net.congr fun t' k hk _ => ⟨fun hp => ?_, fun hp => hpold hp fun _ => hk _ _⟩
    rcases (hpending _ _).mp hp with ⟨hp1, _⟩ | ⟨_, hp2⟩
    · exact hp1
    · exact absurd hp2 (hk _ _)
  refine WInvX.of_parts hst ?alarms hnet (s.nextId ▸ h.idCounter) (fresh_add (w := marked w old n) hfm _ htim hnt) (s.profile ▸ h.profileOk)
  rw [s.ents, s.protos]
  exact h.alarms.rearm (N := fun t q rid => t = w.nextTimer ∧ q = p ∧ rid = e.rid) he hreq'
    (fun y hy hye t' q hp => hpold hp fun p0 hc => hye (h.ridUnique y hy e he (TKind.retry.inj hc).2))
    (fun t' q rid hp => ((hpending _ _).mp hp).imp (fun a => ⟨a.1, fun hc => a.2 (hold.symm.trans hc)⟩)
      fun a => ⟨a.1, (TKind.retry.inj a.2).1, (TKind.retry.inj a.2).2⟩)
    (by rintro _ _ _ ⟨rfl, rfl, rfl⟩; exact ⟨rfl, hr3, ppr, hpp, hlive⟩)
    (fun t' ht' => by cases hr3.symm.trans ht'; exact ⟨hq, p, ppr, (hpending _ _).mpr (.inr ⟨rfl, rfl⟩), hpp, haddr⟩)
    (fun _ _ _ _ _ _ _ => by rw [hr3]; nofun) fun _ ha => by cases hr3.symm.trans ha

/-! ### a request object enters a container -/

/-- a new entry in a window is transmitted at once (SUBSCRIBE/UNSUBSCRIBE registration, PUBREL after PUBREC, a held-back
    PUBLISH moving into the publish window). `w1`, the world in which the helper runs, does not satisfy the invariant:
    `ne` has no alarm yet. -/
theorem enterWindow_inv {x : Option Nat} {w w1 w' : World} (h : WInvX x w) (ne : Ent) {p : Nat} (s : Sent p ne.rid w1 w')
    (hw1 : w1 = { w with ents := w.ents ++ [ne], reqs := w1.reqs, nextReq := w1.nextReq, nextDfd := w1.nextDfd })
    (hreq : ∀ y ∈ w.ents, w1.req y.rid = w.req y.rid)
    (hnew : ∀ y ∈ w.ents, y.rid ≠ ne.rid) (hlt : ne.rid < w1.nextReq) (hnr : w.nextReq ≤ w1.nextReq) (hnd : w.nextDfd ≤ w1.nextDfd)
    (hbox : ne.box ≠ .queue) (hkey : (w1.req ne.rid).msgId = ne.key) (hk0 : ne.key ≠ 0) (hidf : ∀ y ∈ w.ents, idOf w y ≠ ne.key)
    {d : Nat} (hd : (w1.req ne.rid).dfd = some d) (hd1 : d < w1.nextDfd) (hd2 : d ∉ w.fired)
    (hd3 : ∀ y ∈ w.ents, (w.req y.rid).dfd ≠ some d) (hd4 : ∀ cr c, w.connReqs.get? cr = some c → c.dfd ≠ some d)
    {ppr : Proto} (hpp : w.protos.get? p = some ppr) (haddr : ppr.addr = ne.addr) (hlive : ppr.lost = false) : WInvX x w' := by
  obtain ⟨rs, nr', nd', rfl⟩ : ∃ rs nr' nd', w1 = { w with ents := w.ents ++ [ne], reqs := rs, nextReq := nr', nextDfd := nd' } :=
    ⟨_, _, _, hw1⟩
  obtain ⟨due, _, htim, hnt, hal⟩ : ∃ due, w.now ≤ due ∧ w'.timers = w.timers.set w.nextTimer ⟨due, .retry p ne.rid, .pending⟩ ∧
      w'.nextTimer = w.nextTimer + 1 ∧ (w'.req ne.rid).alarm = some w.nextTimer := s.timer_of_id (hkey.symm ▸ hk0)
  have hpending : ∀ t' k, Pending w' t' k ↔ Pending w t' k ∨ (t' = w.nextTimer ∧ k = .retry p ne.rid) := pending_add h.timerFresh htim
  have hreqo : ∀ y ∈ w.ents, w'.req y.rid = w.req y.rid := fun y hy => (s.req_of_ne (hnew y hy).symm).trans (hreq y hy)
  have hmsgn : (w'.req ne.rid).msgId = ne.key := (s.msgId_dfd _).1.trans hkey
  have hdfdn : (w'.req ne.rid).dfd = some d := (s.msgId_dfd _).2.trans hd
  have hst : Store w'.ents w'.req w'.nextReq w'.nextDfd w'.fired w'.connReqs := by
    rw [s.ents, s.nextReq, s.nextDfd, s.fired, s.connReqs]
    refine h.store.extend ne hreqo hnew hlt hnr hnd (fun _ => ⟨hmsgn, hk0⟩) ?_ (fun _ => by rw [hdfdn]; simp) ?_
    · intro _ y hy
      have : idIn w'.req ne = ne.key := by simp [idIn, hbox]
      rw [this]; exact hidf y hy
    · intro d' hd'
      cases hdfdn.symm.trans hd'
      exact ⟨hd1, hd2, hd3, hd4⟩
  have hal' : Alarms x w'.ents w'.req w'.protos (fun t q rid => Pending w' t (.retry q rid)) := by
    rw [s.ents, s.protos]
    refine h.alarms.extend (N := fun t q rid => t = w.nextTimer ∧ q = p ∧ rid = ne.rid) ne hreqo
      (fun t q rid' => by rw [hpending, TKind.retry.injEq]) ?_ (fun t ht => ?_) fun _ => by rw [hal]; nofun
    · rintro _ _ _ ⟨rfl, rfl, rfl⟩
      exact ⟨rfl, hal, ppr, hpp, hlive⟩
    · cases hal.symm.trans ht
      exact ⟨hbox, p, ppr, (hpending _ _).mpr (.inr ⟨rfl, rfl⟩), hpp, haddr⟩
  have hnet : Net w'.protos w'.nextProto w'.connReqs w'.nextCR w'.fired (Pending w') := by
    rw [s.protos, s.nextProto, s.connReqs, s.nextCR, s.fired]
    exact h.net.congr fun t k hk _ => (hpending t k).trans ⟨fun hp => hp.elim id fun hc => absurd hc.2 (hk _ _), Or.inl⟩
  exact WInvX.of_parts hst hal' hnet (s.nextId ▸ h.idCounter) (fresh_add h.timerFresh _ htim hnt) (s.profile ▸ h.profileOk)

/-- an accepted publish() is appended to the queue of held-back messages -/
def addQueue (w : World) (a rid : Nat) (r : Req) (nr' nd' ns' : Nat) : World :=
  { w with reqs := w.reqs.set rid r, ents := w.ents ++ [⟨a, .queue, 0, rid⟩], nextReq := nr', nextDfd := nd', nextSeq := ns' }

theorem addQueue_inv {x : Option Nat} {w : World} (h : WInvX x w) (a rid : Nat) (r : Req) (nr' nd' ns' : Nat)
    (hnew : ∀ y ∈ w.ents, y.rid ≠ rid) (hlt : rid < nr') (hnr : w.nextReq ≤ nr') (hnd : w.nextDfd ≤ nd')
    (hidf : r.msgId ≠ 0 → ∀ y ∈ w.ents, idOf w y ≠ r.msgId)
    (hal : r.alarm = none)
    (hsome : r.msgId ≠ 0 → r.dfd ≠ none)
    (hd : ∀ d, r.dfd = some d → d < nd' ∧ d ∉ w.fired ∧ (∀ y ∈ w.ents, (w.req y.rid).dfd ≠ some d) ∧
      (∀ cr c, w.connReqs.get? cr = some c → c.dfd ≠ some d)) :
    WInvX x (addQueue w a rid r nr' nd' ns') := by
  have hreq : ∀ r0, (addQueue w a rid r nr' nd' ns').req r0 = if rid = r0 then r else w.req r0 := fun r0 => req_set w rid _ r0 _ rfl
  have hreqo : ∀ y ∈ w.ents, (addQueue w a rid r nr' nd' ns').req y.rid = w.req y.rid :=
    fun y hy => by rw [hreq, if_neg (Ne.symm (hnew y hy))]
  have hreqn : (addQueue w a rid r nr' nd' ns').req rid = r := by rw [hreq, if_pos rfl]
  refine WInvX.of_parts
    (h.store.extend ⟨a, .queue, 0, rid⟩ hreqo hnew hlt hnr hnd (fun hq => absurd rfl hq) ?_
      (by rw [hreqn]; exact hsome) (by rw [hreqn]; exact hd))
    (h.alarms.extend (N := fun _ _ _ => False) ⟨a, .queue, 0, rid⟩ hreqo (fun _ _ _ => (or_iff_left id).symm) nofun
      (fun t ht => by rw [hreqn, hal] at ht; cases ht) fun hq => absurd rfl hq)
    h.net h.idCounter h.timerFresh h.profileOk
  have : idIn (addQueue w a rid r nr' nd' ns').req ⟨a, .queue, 0, rid⟩ = r.msgId := by simp only [idIn, ↓reduceIte]; rw [hreqn]
  rw [this]; exact hidf

end Mqtt
