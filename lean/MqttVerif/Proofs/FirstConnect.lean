import MqttVerif.Proofs.Heads
import MqttVerif.Proofs.Emits
import MqttVerif.Proofs.Deadline
import MqttVerif.Proofs.Addr
/-
  C18: "nothing is written before connect() is called, the first packet is CONNECT"; C19 on the wire: an operation run by another
  protocol never writes to `p`'s transport, whatever the state.  `Clean p w`: protocol `p` is
  idle and no pending DelayedCall of the table is a keepalive or retransmission callback of `p`.  `Still p w w'`: from `w` to `w'`
  nothing was written to `p`'s transport, and `p` stayed clean if it was.  The relation is reflexive and transitive, so the walks of
  `Pass.lean` give it for everything another protocol runs, for the report of any loss and for the setters (`OA p`); what `p` itself
  runs has it from a clean state (`CN p`), because the idle state honours `connect` and nothing else (`idle_allows_connect_only`).
  No invariant, no `Env`.
-/
namespace Mqtt

def onP (p : Nat) : Obs → Bool
  | .write q _ => q == p
  | _ => false
def NoW (p : Nat) (l : List Obs) : Prop := ∀ o, o ∈ l → onP p o = false
/-- the first packet for `p`'s transport among these observations is a CONNECT -/
def FirstC (p : Nat) (l : List Obs) : Prop := ∃ pre bs post, l = pre ++ Obs.write p bs :: post ∧ NoW p pre ∧ isConnect bs = true

theorem NoW.nil (p : Nat) : NoW p [] := fun _ h => by cases h
theorem NoW.single {p : Nat} {o : Obs} (h : onP p o = false) : NoW p [o] := fun _ ho => by
  rw [List.mem_singleton.mp ho]
  exact h
theorem NoW.append {p : Nat} {a b : List Obs} (ha : NoW p a) (hb : NoW p b) : NoW p (a ++ b) := fun o ho =>
  (List.mem_append.mp ho).elim (ha o) (hb o)
theorem FirstC.append_right {p : Nat} {a : List Obs} (h : FirstC p a) (b : List Obs) : FirstC p (a ++ b) := by
  obtain ⟨pre, bs, post, rfl, h1, h2⟩ := h
  exact ⟨pre, bs, post ++ b, by simp, h1, h2⟩
theorem FirstC.append_left {p : Nat} {a b : List Obs} (ha : NoW p a) (h : FirstC p b) : FirstC p (a ++ b) := by
  obtain ⟨pre, bs, post, rfl, h1, h2⟩ := h
  exact ⟨a ++ pre, bs, post, by simp, ha.append h1, h2⟩

/-- a keepalive or retransmission callback of protocol `p` -/
def TKind.of (p : Nat) : TKind → Prop
  | .pingLoop q | .pingAlarm q | .retry q _ => q = p
  | _ => False

structure Clean (p : Nat) (w : World) : Prop where
  idle : (w.proto p).state = .idle
  noTimer : ∀ t tm, w.timers.get? t = some tm → tm.status = .pending → ¬ tm.kind.of p

theorem Clean.same {p : Nat} {w w' : World} (h : Clean p w) (hp : w'.protos = w.protos) (ht : w'.timers = w.timers) : Clean p w' :=
  ⟨by rw [World.proto, hp]; exact h.idle, by rw [ht]; exact h.noTimer⟩
theorem Clean.timer {p : Nat} {w w' : World} (h : Clean p w) (hp : w'.protos = w.protos) {t : Nat} {tm : Timer}
    (ht : w'.timers = w.timers.set t tm) (hk : tm.status = .pending → ¬ tm.kind.of p) : Clean p w' := by
  refine ⟨by rw [World.proto, hp]; exact h.idle, fun t' tm' ht' hs => ?_⟩
  rw [ht, Dict.get?_set] at ht'
  split at ht'
  · injection ht' with ht'
    subst ht'
    exact hk hs
  · exact h.noTimer t' tm' ht' hs
theorem Clean.setProto {p : Nat} {w w' : World} (h : Clean p w) {q : Nat} {pr : Proto} (hp : w'.protos = w.protos.set q pr)
    (hs : q = p → pr.state = .idle) (ht : w'.timers = w.timers) : Clean p w' := by
  refine ⟨?_, by rw [ht]; exact h.noTimer⟩
  rw [World.proto, hp, Dict.get?_set]
  split
  · exact hs ‹_›
  · exact h.idle

def Still (p : Nat) (w w' : World) : Prop := ∃ l, w'.log = w.log ++ l ∧ NoW p l ∧ (Clean p w → Clean p w')

section still
variable {p : Nat}

theorem Still.refl (p : Nat) (w : World) : Still p w w := ⟨[], (List.append_nil _).symm, NoW.nil p, id⟩
theorem Still.trans {a b c : World} (h1 : Still p a b) (h2 : Still p b c) : Still p a c := by
  obtain ⟨l1, a1, a2, a3⟩ := h1
  obtain ⟨l2, b1, b2, b3⟩ := h2
  exact ⟨l1 ++ l2, by rw [b1, a1, List.append_assoc], a2.append b2, fun h => b3 (a3 h)⟩
theorem Still.clean {w w' : World} (h : Still p w w') (hc : Clean p w) : Clean p w' := by
  obtain ⟨_, _, _, h3⟩ := h
  exact h3 hc
theorem Still.silent {w w' : World} (hl : w'.log = w.log) (hc : Clean p w → Clean p w') : Still p w w' :=
  ⟨[], by rw [hl, List.append_nil], NoW.nil p, hc⟩
theorem Still.same {w w' : World} (hl : w'.log = w.log) (hp : w'.protos = w.protos) (ht : w'.timers = w.timers) : Still p w w' :=
  .silent hl fun c => c.same hp ht
theorem Sent.still {q rid : Nat} {w w' : World} (h : Sent q rid w w') (hq : q ≠ p) : Still p w w' :=
  ⟨_, h.log, NoW.single (by simp [onP, hq]), fun c => h.timer.elim (fun h' => c.same h.protos h'.1)
    fun ⟨_, _, h', _⟩ => c.timer h.protos h' fun _ => hq⟩

end still

def OA (p : Nat) (s : Step) : Prop := ∀ w, Still p w (s w).1

section oa
variable {p : Nat}

theorem oa_closed : Step.Closed (OA p) := Step.Rel.closed (Still.refl p) Still.trans

theorem oa_same {f : World → World} (h : ∀ w, (f w).log = w.log ∧ (f w).protos = w.protos ∧ (f w).timers = w.timers) :
    OA p (Step.mod f) := fun w => .same (h w).1 (h w).2.1 (h w).2.2
theorem oa_timer {f : World → World} (h : ∀ w, (f w).log = w.log ∧ (f w).protos = w.protos ∧
    ∃ t tm, (f w).timers = w.timers.set t tm ∧ (tm.status = .pending → ¬ tm.kind.of p)) : OA p (Step.mod f) := fun w => by
  obtain ⟨hl, hp, t, tm, ht, hk⟩ := h w
  exact .silent hl fun c => c.timer hp ht hk
theorem oa_emit (o : Obs) (ho : onP p o = false) : OA p (emit o) := fun _ => ⟨[o], rfl, NoW.single ho, fun c => c.same rfl rfl⟩
theorem oa_write (q : Nat) (bs : Bytes) (hq : q ≠ p) : OA p (write q bs) := oa_emit _ (by simp [onP, hq])
theorem oa_abort (q : Nat) : OA p (abort q) := oa_emit _ rfl
theorem oa_setEnts (g : List Ent → List Ent) : OA p (setEnts g) := oa_same fun _ => ⟨rfl, rfl, rfl⟩
theorem oa_setReq (r : Nat) (g : Req → Req) : OA p (setReq r g) := oa_same fun _ => ⟨rfl, rfl, rfl⟩
theorem oa_setProto (q : Nat) (g : Proto → Proto) (hg : q = p → ∀ pr, pr.state = .idle → (g pr).state = .idle) : OA p (setProto q g) :=
  fun _ => .silent rfl fun c => c.setProto rfl (fun e => hg e _ (e ▸ c.idle)) rfl
theorem oa_callLater (d : Rat) (k : TKind) (hk : ¬ k.of p) {f : Nat → Step} (hf : ∀ t, OA p (f t)) : OA p (callLater d k f) :=
  oa_closed.callLater d k (oa_timer fun _ => ⟨rfl, rfl, _, _, rfl, fun _ => hk⟩) hf
theorem oa_newDfd {f : Nat → Step} (hf : ∀ t, OA p (f t)) : OA p (newDfd f) :=
  oa_closed.newDfd (fun _ => oa_same fun _ => ⟨rfl, rfl, rfl⟩) hf
theorem oa_makeId {f : Nat → Step} (hf : ∀ t, OA p (f t)) : OA p (makeId f) :=
  oa_closed.makeId (fun _ => oa_same fun _ => ⟨rfl, rfl, rfl⟩) hf
theorem oa_cancelTimer (t : Nat) : OA p (cancelTimer t) :=
  oa_closed.cancelTimer t fun _ => oa_timer fun _ => ⟨rfl, rfl, t, _, rfl, nofun⟩
theorem oa_fireDfd (d : Nat) (o : Outcome) : OA p (fireDfd d o) :=
  oa_closed.fireDfd d o (oa_same fun _ => ⟨rfl, rfl, rfl⟩) (oa_emit _ rfl)

/-- `q` may be `p` itself: the report of its own loss writes nothing either, and leaves a clean `p` clean -/
theorem oa_connectionLost (q : Nat) (r : Err) : OA p (connectionLost q r) :=
  oa_closed.connectionLost_prims r oa_cancelTimer (fun _ => oa_setReq _ _) (fun _ _ _ => oa_setEnts _) (fun _ => oa_setEnts _)
    (fun _ => oa_fireDfd _ _) (oa_callLater _ _ id fun _ => oa_closed.ok)
    fun _ hg => oa_setProto _ _ fun _ pr hi => (hg pr).2.2.elim (fun e => e.trans hi) id

section other
variable {q : Nat} (hq : q ≠ p)
include hq

theorem oa_proto (g : Proto → Proto) : OA p (setProto q g) := oa_setProto q g fun h => absurd h hq
theorem oa_refill : OA p (refill q) :=
  refill_of_sent (Still.refl p) Still.trans q (fun _ _ => .same rfl rfl rfl) fun _ _ _ s => s.still hq
theorem oa_syncSession : OA p (syncSession q) :=
  syncSession_of_sent (Still.refl p) Still.trans q fun _ _ _ s => s.still hq
theorem oa_loopRun : OA p (loopRun q) :=
  oa_closed.loopRun
    (oa_closed.ping (oa_closed.doPingRequest (oa_write _ _ hq) fun _ => oa_callLater _ (.pingAlarm q) hq fun _ => oa_proto hq _))
    (fun _ => oa_callLater _ (.pingLoop q) hq fun _ => oa_proto hq _) (oa_proto hq _)
theorem oa_processPacket (pkt : Bytes) : OA p (processPacket q pkt) :=
  oa_closed.processPacket_prims pkt (oa_abort q) (oa_emit _ rfl) (fun _ => oa_emit _ rfl) (fun _ _ _ _ _ => oa_write _ _ hq)
    oa_cancelTimer (fun _ _ => oa_fireDfd _ _) (fun _ _ => oa_fireDfd _ _) (fun _ _ _ => oa_setEnts _)
    (fun _ => oa_same fun _ => ⟨rfl, rfl, rfl⟩) (oa_syncSession hq) (oa_refill hq) (oa_loopRun hq)
    (fun _ => oa_closed.handlePUBREC _ oa_cancelTimer (fun _ => oa_setEnts _) (fun _ _ _ => oa_same fun _ => ⟨rfl, rfl, rfl⟩)
      (fun _ _ => oa_setEnts _) fun _ w => (retryReleaseW_sent q _ _ w).still hq)
    fun _ _ => oa_proto hq _
theorem oa_dataReceived (d : Bytes) : OA p (dataReceived q d) :=
  oa_closed.dataReceived d (oa_processPacket hq) (oa_proto hq _) fun _ => oa_proto hq _

theorem oa_apiConnect (a : ConnectArgs) : OA p (apiConnect q a) :=
  oa_closed.apiConnect a (fun _ => oa_emit _ rfl) (oa_proto hq _) (fun _ _ => oa_write _ _ hq) (oa_proto hq _)
    fun _ _ => oa_callLater _ _ id fun _ => oa_newDfd fun _ =>
      oa_closed.seq (oa_same fun _ => ⟨rfl, rfl, rfl⟩) (oa_closed.seq (oa_proto hq _) (oa_emit _ rfl))
theorem oa_apiDisconnect : OA p (apiDisconnect q) := oa_closed.apiDisconnect (oa_write _ _ hq) (oa_emit _ rfl) (oa_emit _ rfl)
theorem oa_apiPublish (t : PyStr) (pl : Payload) (qs : Int) (r : Bool) : OA p (apiPublish q t pl qs r) :=
  oa_closed.apiPublish t pl qs r (fun _ => oa_emit _ rfl) (oa_emit _ rfl) (fun _ _ => oa_emit _ rfl) oa_makeId oa_newDfd
    fun _ _ _ _ _ => oa_closed.read fun _ =>
      oa_closed.seq (oa_same fun _ => ⟨rfl, rfl, rfl⟩) (oa_closed.seq (oa_setEnts _) (oa_refill hq))
theorem oa_registerSubUnsub (s : Bool) (i : Nat) (bs : Bytes) : OA p (registerSubUnsub q s i bs) :=
  oa_closed.registerSubUnsub s i bs oa_newDfd (fun _ _ _ _ => oa_same fun _ => ⟨rfl, rfl, rfl⟩) (fun _ _ _ => oa_setEnts _)
    (fun _ w => (retrySubUnsubW_sent q _ _ s w).still hq) fun _ => oa_emit _ rfl
end other

theorem oa_runTimer (k : TKind) (hk : ¬ k.of p) : OA p (runTimer k) := by
  cases k with
  | connack cr =>
    exact oa_closed.runTimer_connack cr (fun _ => oa_fireDfd _ _) (fun _ => oa_same fun _ => ⟨rfl, rfl, rfl⟩) oa_abort
  | pingLoop q => exact oa_closed.seq (oa_proto hk _) (oa_loopRun hk)
  | pingAlarm q => exact oa_closed.seq (oa_proto hk _) (oa_abort q)
  | retry q rid =>
    exact oa_closed.runTimer_retry q rid (fun w => (retryPublishW_sent q rid true w).still hk)
      (fun w => (retryReleaseW_sent q rid true w).still hk) fun s w => (retrySubUnsubW_sent q rid true s w).still hk
  | onDisc q r => exact oa_emit _ rfl

theorem still_fireTimer {t : Nat} {w : World} (h : ∀ tm, w.timers.get? t = some tm → tm.status = .pending → ¬ tm.kind.of p) :
    Still p w (fireTimer t w).1 := by
  refine fireTimer_at (Q := fun r => Still p w r.1) t w (oa_emit _ rfl w) fun tm ht hs => (?_ : OA p _) w
  exact oa_closed.seq (oa_timer fun _ => ⟨rfl, rfl, t, _, rfl, nofun⟩) (oa_runTimer _ (h tm ht hs))

end oa

theorem idle_row (i : Nat) : ∀ k, ((Spec.dispatchTable.getD i []).getD 0 []).getD k false = true → k = 0 := by
  -- the table has 3 profiles and 15 methods; beyond either bound `getD` answers with its default
  have key : ∀ i, i < 3 → ∀ k, k < 15 → ((Spec.dispatchTable.getD i []).getD 0 []).getD k false = true → k = 0 := by decide
  have len : ∀ i, i < 3 → ((Spec.dispatchTable.getD i []).getD 0 []).length = 15 := by decide
  intro k h
  by_cases hi : i < 3
  · by_cases hk : k < 15
    · exact key i hi k hk h
    · rw [getD_default _ _ _ (by rw [len i hi]; omega)] at h
      cases h
  · have : Spec.dispatchTable.length = 3 := by decide
    rw [getD_default Spec.dispatchTable i [] (by omega)] at h
    cases h
/-- in the idle state the dispatch table honours `connect` and nothing else -- for every profile value -/
theorem idle_allows_connect_only (w : World) (p k : Nat) (hi : (w.proto p).state = .idle) (h : allowed w p k = true) : k = 0 := by
  unfold allowed at h
  rw [table_row, hi] at h
  exact idle_row _ k h

theorem idle_refuses {w : World} {p : Nat} (hi : (w.proto p).state = .idle) (k : Nat) (hk : k ≠ 0) : allowed w p k = false := by
  cases h : allowed w p k with
  | false => rfl
  | true => exact absurd (idle_allows_connect_only w p k hi h) hk

def CN (p : Nat) (s : Step) : Prop := ∀ w, Clean p w → Still p w (s w).1

section cn
variable {p : Nat}

theorem cn_closed : Step.Closed (CN p) :=
  Step.Rel.closed (R := fun w w' => Clean p w → Still p w w') (fun w _ => .refl p w)
    fun h1 h2 c => (h1 c).trans (h2 ((h1 c).clean c))
theorem cn_of_oa {s : Step} (h : OA p s) : CN p s := fun w _ => h w
theorem cn_read {f : World → Step} (hf : ∀ w, Clean p w → CN p (f w)) : CN p (Step.read f) := fun w c => hf w c w c

theorem cn_processPacket (pkt : Bytes) : CN p (processPacket p pkt) := by
  have drop : ∀ k (H : Step), k ≠ 0 → CN p (Step.read fun w => if allowed w p k then H else Step.ok) := fun k H hk =>
    cn_read fun w c => by
      rw [idle_refuses c.idle k hk]
      exact cn_closed.ok
  rcases processPacket_eq p pkt with ⟨_, h⟩ | h | ⟨_, _, _, h⟩ | ⟨_, h⟩ | ⟨_, _, _, h⟩ | ⟨_, _, _, h⟩ | ⟨_, _, _, h⟩ | ⟨_, _, _, h⟩ | ⟨_, _, _, h⟩ |
    ⟨_, _, _, h⟩ | ⟨_, _, _, h⟩
  all_goals rw [h]
  · exact cn_closed.raise _
  · exact cn_of_oa (oa_abort p)
  all_goals exact drop _ _ (by decide)
theorem cn_dataReceived (d : Bytes) : CN p (dataReceived p d) :=
  cn_closed.dataReceived d cn_processPacket (cn_of_oa (oa_setProto _ _ fun _ _ h => h))
    fun _ => cn_of_oa (oa_setProto _ _ fun _ _ h => h)

theorem cn_apiDisconnect : CN p (apiDisconnect p) := by
  unfold apiDisconnect
  refine cn_read fun w c => ?_
  rw [idle_refuses c.idle 1 (by decide)]
  exact cn_closed.raise _
theorem cn_apiPublish (t : PyStr) (pl : Payload) (qs : Int) (r : Bool) : CN p (apiPublish p t pl qs r) := by
  rw [apiPublish_read]
  refine cn_read fun w c => ?_
  rw [idle_refuses c.idle 4 (by decide)]
  exact cn_of_oa (oa_emit _ rfl)
theorem cn_apiSubscribe (a : SubArg) (qs : Int) : CN p (apiSubscribe p a qs) := by
  unfold apiSubscribe
  refine cn_read fun w c => ?_
  rw [idle_refuses c.idle 2 (by decide)]
  exact cn_of_oa (oa_emit _ rfl)
theorem cn_apiUnsubscribe (a : UnsubArg) : CN p (apiUnsubscribe p a) := by
  unfold apiUnsubscribe
  refine cn_read fun w c => ?_
  rw [idle_refuses c.idle 3 (by decide)]
  exact cn_of_oa (oa_emit _ rfl)

end cn

theorem first_write {π : Pol} (p : Nat) (g : Proto → Proto) (pdu : Bytes) (R : Step) (hR : Emits π R) (hpdu : isConnect pdu = true) (w : World) :
    ∃ l, ((setProto p g ;; write p pdu ;; R) w).1.log = w.log ++ l ∧ FirstC p l := by
  obtain ⟨l', h1, _⟩ := hR (({ w with protos := w.protos.set p (g (w.proto p)) } : World).emit (.write p pdu))
  refine ⟨[.write p pdu] ++ l', ?_, ⟨[], pdu, l', rfl, NoW.nil p, hpdu⟩⟩
  have : ((setProto p g ;; write p pdu ;; R) w) = R (({ w with protos := w.protos.set p (g (w.proto p)) } : World).emit (.write p pdu)) := rfl
  rw [this, h1]
  simp [World.emit]

/-- `connect()` on a clean protocol: refused without a trace on the wire, or the CONNECT is the first thing written -/
theorem connect_clean (p : Nat) (a : ConnectArgs) (w : World) (hc : Clean p w) :
    ∃ l, (apiConnect p a w).1.log = w.log ++ l ∧ ((Clean p (apiConnect p a w).1 ∧ NoW p l) ∨ FirstC p l) := by
  have hE := connect_first a.toF
  have refused : ∀ (s : Step), OA p s → ∃ l, (s w).1.log = w.log ++ l ∧ ((Clean p (s w).1 ∧ NoW p l) ∨ FirstC p l) := by
    intro s hs
    obtain ⟨l, a1, a2, a3⟩ := hs w
    exact ⟨l, a1, Or.inl ⟨a3 hc, a2⟩⟩
  unfold apiConnect
  generalize a.toF.encode = E at hE
  simp only [Step.read]
  split
  · exact refused _ (oa_emit _ rfl)
  · split
    · exact refused _ (oa_emit _ rfl)
    · cases E with
      | error e =>
        dsimp only
        split
        · exact refused _ (oa_emit _ rfl)
        · exact refused _ (oa_closed.raise _)
      | ok pdu =>
        dsimp only
        -- after the CONNECT the handler only appends to the log
        refine (first_write (π := ⟨fun _ => true, fun _ => true, true⟩) p _ pdu _ ?_ (hE pdu rfl) w).imp fun l h => ⟨h.1, Or.inr h.2⟩
        exact em_closed.seq (em_setProto _ _) (em_closed.read fun _ => em_callLater _ _ fun _ => em_newDfd fun _ =>
          em_closed.seq (em_mod fun _ => rfl) (em_closed.seq (em_setProto _ _) (em_emit _ rfl)))

theorem still_on {p : Nat} (f : Nat → Step) (hp : CN p (f p)) (hq : ∀ {q}, q ≠ p → OA p (f q)) {w : World} {q : Nat}
    (h : Clean p w ∨ q ≠ p) : Still p w (f q w).1 := by
  by_cases e : q = p
  · subst e
    exact hp w (h.resolve_right fun h => h rfl)
  · exact hq e w

theorem still_handler (p : Nat) (w : World) (op : Op) (h : Clean p w ∨ ∀ q, op.proto? w = some q → q ≠ p)
    (hno : ∀ a, op ≠ .connect p a) : Still p w (op.handler w).1 := by
  cases op with
  | build a => exact .silent rfl fun c => c.setProto rfl (fun _ => rfl) rfl
  | jit v => exact .same rfl rfl rfl
  | setid v => exact .same rfl rfl rfl
  | sethandlers q m => exact (oa_setProto q _ fun _ _ h => h : OA p (apiSetHandlers q m)) w
  | connect q a =>
    by_cases e : q = p
    · exact absurd (e ▸ rfl) (hno a)
    · exact oa_apiConnect e a w
  | disconnect q => exact still_on apiDisconnect cn_apiDisconnect oa_apiDisconnect (h.imp_right fun hop => hop q rfl)
  | publish q t pl qs r =>
    exact still_on (apiPublish · t pl qs r) (cn_apiPublish t pl qs r) (fun hq => oa_apiPublish hq t pl qs r)
      (h.imp_right fun hop => hop q rfl)
  | subscribe q a qs =>
    exact still_on (apiSubscribe · a qs) (cn_apiSubscribe a qs)
      (fun hq => oa_closed.apiSubscribe a qs (fun _ => oa_emit _ rfl) oa_makeId (oa_registerSubUnsub hq true))
      (h.imp_right fun hop => hop q rfl)
  | unsubscribe q a =>
    exact still_on (apiUnsubscribe · a) (cn_apiUnsubscribe a)
      (fun hq => oa_closed.apiUnsubscribe a (fun _ => oa_emit _ rfl) oa_makeId (oa_registerSubUnsub hq false))
      (h.imp_right fun hop => hop q rfl)
  | setwin q n => exact oa_closed.apiSetWindow n (fun _ _ => oa_setProto _ _ fun _ _ h => h) (oa_emit _ rfl) w
  | settimeout q n => exact oa_closed.apiSetTimeout n (fun _ => oa_setProto _ _ fun _ _ h => h) (oa_emit _ rfl) w
  | setbw q b f => exact oa_closed.apiSetBandwith b f (oa_setProto _ _ fun _ _ h => h) (oa_emit _ rfl) w
  | recv q d =>
    exact still_on (dataReceived · d) (cn_dataReceived d) (fun hq => oa_dataReceived hq d) (h.imp_right fun hop => hop q rfl)
  | lost q r => exact oa_connectionLost q r w
  | fire t =>
    -- a timer that is pending in a clean state is not `p`'s; nor is one that another protocol runs
    refine still_fireTimer fun tm ht hs hk => ?_
    rcases h with c | hop
    · exact c.noTimer t tm ht hs hk
    · refine hop p ?_ rfl
      simp only [Op.proto?, ht]
      cases hkind : tm.kind <;> rw [hkind] at hk <;> cases hk <;> rfl

theorem still_record (p : Nat) (w : World) (op : Op) : Still p (op.handler w).1 (step w op) :=
  Step.Rel.step (R := fun _ => Still p (op.handler w).1) (.refl p _)
    fun _ _ h => h.trans ⟨[_], rfl, NoW.single (by split <;> rfl), fun c => c.same rfl rfl⟩

theorem still_step {p : Nat} {w : World} {op : Op} (h : Clean p w ∨ ∀ q, op.proto? w = some q → q ≠ p)
    (hno : ∀ a, op ≠ .connect p a) : Still p w (step w op) :=
  (still_handler p w op h hno).trans (still_record p w op)

/-- from a state where `p` is clean: `p` stays clean and nothing is written for it -- unless the operation is `connect()`
    on `p`, and then the first packet for `p` is the CONNECT -/
theorem clean_step (p : Nat) (w : World) (hc : Clean p w) (op : Op) :
    ∃ l, (step w op).log = w.log ++ l ∧ ((Clean p (step w op) ∧ NoW p l) ∨ ((∃ a, op = .connect p a) ∧ FirstC p l)) := by
  by_cases hop : ∃ a, op = .connect p a
  · obtain ⟨a, rfl⟩ := hop
    obtain ⟨l, h1, h2⟩ := connect_clean p a w hc
    obtain ⟨l', g1, g2, g3⟩ := still_record p w (.connect p a)
    have h1' : ((Op.connect p a).handler w).1.log = w.log ++ l := h1
    refine ⟨l ++ l', by rw [g1, h1', List.append_assoc], ?_⟩
    exact h2.elim (fun h => .inl ⟨g3 h.1, h.2.append g2⟩) fun h => .inr ⟨⟨a, rfl⟩, h.append_right l'⟩
  · obtain ⟨l, h1, h2, h3⟩ := still_step (.inl hc) fun a e => hop ⟨a, e⟩
    exact ⟨l, h1, .inl ⟨h3 hc, h2⟩⟩

/-- C19 on the wire, whatever the state -/
theorem other_protocol_step (p : Nat) (w : World) (op : Op) (hop : ∀ q, op.proto? w = some q → q ≠ p) :
    ∃ l, (step w op).log = w.log ++ l ∧ NoW p l := by
  have hno : ∀ a, op ≠ .connect p a := fun a e => by
    subst e
    exact hop p rfl rfl
  obtain ⟨l, h1, h2, _⟩ := still_step (.inr hop) hno
  exact ⟨l, h1, h2⟩

theorem step_log_append (w : World) (op : Op) : ∃ l, (step w op).log = w.log ++ l := by
  -- any policy will do: of `Emits` only the growth of the log is used
  obtain ⟨π, hπ⟩ : ∃ π, Emits π op.handler := by
    cases op with
    | recv q d => exact ⟨_, recv_confined q d⟩
    | _ => exact ⟨_, success_only_on_recv _ nofun⟩
  obtain ⟨l, h, _⟩ := hπ w
  rcases step_eq w op with e | ⟨_, e⟩
  · exact ⟨l, by rw [e, h]⟩
  · exact ⟨l ++ [_], by rw [e, ← List.append_assoc, ← h]⟩

def Started (p : Nat) (w : World) : Prop := (Clean p w ∧ NoW p w.log) ∨ FirstC p w.log

theorem started_step (p : Nat) (w : World) (h : Started p w) (op : Op) : Started p (step w op) := by
  rcases h with ⟨hc, hn⟩ | hf
  · obtain ⟨l, h1, h2⟩ := clean_step p w hc op
    rcases h2 with ⟨c1, c2⟩ | ⟨_, c2⟩
    · exact Or.inl ⟨c1, by rw [h1]; exact hn.append c2⟩
    · exact Or.inr (by rw [h1]; exact c2.append_left hn)
  · obtain ⟨l, h1⟩ := step_log_append w op
    exact Or.inr (by rw [h1]; exact hf.append_right l)
theorem started_run (p : Nat) (ops : List Op) (w : World) (h : Started p w) : Started p (run w ops) :=
  run_invariant (Started p) (fun w op h => started_step p w h op) ops w h
theorem clean_init (p : Nat) (profile : Nat) : Clean p (World.init profile) ∧ NoW p (World.init profile).log :=
  ⟨⟨rfl, fun t tm h _ => by simp [World.init, Dict.get?] at h⟩, fun o ho => by simp [World.init] at ho⟩
theorem started_init (p : Nat) (profile : Nat) : Started p (World.init profile) := Or.inl (clean_init p profile)

/-- as long as `connect()` is not called on `p`, nothing is written for it and it stays clean -- from ANY state where `p` is
    clean (e.g. after its loss has been reported) -/
theorem quiet_delta (p : Nat) : ∀ (ops : List Op) (w : World), Clean p w → (∀ a, Op.connect p a ∉ ops) →
    ∃ l, (run w ops).log = w.log ++ l ∧ NoW p l ∧ Clean p (run w ops) := by
  intro ops
  induction ops with
  | nil => exact fun _ hc _ => ⟨[], by simp [run], NoW.nil p, hc⟩
  | cons op r ih =>
    intro w hc hno
    obtain ⟨l1, a1, a2, a3⟩ := still_step (.inl hc) fun a e => hno a (e ▸ List.mem_cons_self)
    obtain ⟨l2, b1, b2, b3⟩ := ih (step w op) (a3 hc) fun a ha => hno a (List.mem_cons_of_mem _ ha)
    exact ⟨l1 ++ l2, by show (run (step w op) r).log = _; rw [b1, a1, List.append_assoc], a2.append b2, b3⟩

theorem quiet_until_connect (p : Nat) (ops : List Op) (w : World) (hc : Clean p w) (hn : NoW p w.log) (hno : ∀ a, Op.connect p a ∉ ops) :
    Clean p (run w ops) ∧ NoW p (run w ops).log := by
  obtain ⟨l, h1, h2, h3⟩ := quiet_delta p ops w hc hno
  exact ⟨h3, by rw [h1]; exact hn.append h2⟩

end Mqtt
