import MqttVerif.Proofs.ProtoFrame
import MqttVerif.Proofs.Session3
/-
  C19, the object layer: a handler writes to no request object but those its own address's dictionaries refer to (and those it
  creates).  `S` is a set of protected request ids, all allocated before `N0`; `RGood`: no entry of `q`'s address refers to one.
  `RQ S N0 q s`: run by protocol `q`, `s` keeps `RGood` and leaves every protected request object -- packet bytes, identifier,
  QoS, Deferred, retry timer reference, retry interval -- exactly as it was.  It is the `Step.Rel` of `RStep`, so most handlers
  come from the walks of `Pass.lean`.  The ones that write a request object do not: which one they write (found in `q`'s
  dictionaries, named by `q`'s retry timer, or new at the counter) is read from a world, and that it is unprotected follows from
  the `RGood` of that world (`rq_read`).  Instantiated with `S` = the requests that the dictionaries of another address refer
  to (disjoint from `q`'s by `WInv.ridUnique`) this is `other_step_requests`.
-/
namespace Mqtt

structure RGood (S : Nat → Prop) (N0 q : Nat) (w : World) : Prop where
  ents : ∀ e ∈ w.ents, e.addr = w.paddr q → ¬ S e.rid
  bound : ∀ r, S r → r < N0
  next : N0 ≤ w.nextReq

def RStep (S : Nat → Prop) (N0 q : Nat) (w w' : World) : Prop :=
  RGood S N0 q w → RGood S N0 q w' ∧ (∀ q', w'.paddr q' = w.paddr q') ∧ ∀ r, S r → w'.reqs.get? r = w.reqs.get? r

def RQ (S : Nat → Prop) (N0 q : Nat) : Step → Prop := Step.Rel (RStep S N0 q)

section rq
variable {S : Nat → Prop} {N0 q : Nat}

theorem RStep.refl (w : World) : RStep S N0 q w w := fun h => ⟨h, fun _ => rfl, fun _ _ => rfl⟩
theorem RStep.trans {a b c : World} (x : RStep S N0 q a b) (y : RStep S N0 q b c) : RStep S N0 q a c := fun h => by
  obtain ⟨a1, a2, a3⟩ := x h
  obtain ⟨b1, b2, b3⟩ := y a1
  exact ⟨b1, fun q' => (b2 q').trans (a2 q'), fun r hr => (b3 r hr).trans (a3 r hr)⟩

theorem rq_closed : Step.Closed (RQ S N0 q) := Step.Rel.closed RStep.refl RStep.trans

/-- `Step.Closed.read` says nothing of the world read; here it satisfies `RGood` -/
theorem rq_read {f : World → Step} (h : ∀ w, RGood S N0 q w → RQ S N0 q (f w)) : RQ S N0 q (Step.read f) := fun w hw => h w hw w hw

theorem RGood.items {w : World} (h : RGood S N0 q w) {b : Box} {e : Ent} (he : e ∈ Ents.items w.ents (w.paddr q) b) : ¬ S e.rid :=
  h.ents e (Ents.mem_items.mp he).1 (Ents.items_addr he)
theorem RGood.lookup {w : World} (h : RGood S N0 q w) {b : Box} {k rid : Nat} (hl : Ents.lookup w.ents (w.paddr q) b k = some rid) : ¬ S rid :=
  h.ents ⟨w.paddr q, b, k, rid⟩ (Ents.lookup_some hl) rfl
theorem RGood.fresh {w : World} (h : RGood S N0 q w) : ¬ S w.nextReq := fun hs => by have := h.bound _ hs; have := h.next; omega

theorem RStep.of {w w' : World} (he : ∀ e ∈ w'.ents, e ∈ w.ents ∨ ¬ S e.rid)
    (hr : ∀ r, S r → r < N0 → w'.reqs.get? r = w.reqs.get? r) (hn : N0 ≤ w.nextReq → N0 ≤ w'.nextReq)
    (hp : ∀ q', w'.paddr q' = w.paddr q') : RStep S N0 q w w' := fun h =>
  ⟨⟨fun e hm ha => (he e hm).elim (fun hm => h.ents e hm (hp q ▸ ha)) id, h.bound, hn h.next⟩, hp,
    fun r hs => hr r hs (h.bound r hs)⟩

theorem rq_mod {f : World → World}
    (h : ∀ w, (f w).ents = w.ents ∧ (f w).reqs = w.reqs ∧ (f w).nextReq = w.nextReq ∧ (f w).protos = w.protos) :
    RQ S N0 q (Step.mod f) := fun w =>
  .of (w' := f w) (fun e he => Or.inl ((h w).1 ▸ he)) (fun _ _ _ => by rw [(h w).2.1]) (fun hn => (h w).2.2.1 ▸ hn)
    fun _ => by simp only [World.paddr, World.proto, (h w).2.2.2]
theorem rq_setProto (q' : Nat) (g : Proto → Proto) (hg : ∀ pr, (g pr).addr = pr.addr) : RQ S N0 q (setProto q' g) := fun w =>
  .of (fun _ he => Or.inl he) (fun _ _ _ => rfl) id (paddr_setProto w q' g hg)
theorem rq_emit (o : Obs) : RQ S N0 q (emit o) := rq_mod fun _ => ⟨rfl, rfl, rfl, rfl⟩

/-- the only primitive that writes a request object -/
theorem rq_setReq (rid : Nat) (g : Req → Req) (hr : ¬ S rid) : RQ S N0 q (setReq rid g) := fun w =>
  .of (w' := w.setReq rid g) (fun _ he => Or.inl he)
    (fun r hs _ => by rw [setReq_reqs, Dict.get?_set, if_neg fun hc : rid = r => hr (hc ▸ hs)]) id fun _ => rfl

theorem rq_setEnts {g : List Ent → List Ent} (hg : ∀ es e, e ∈ g es → e ∈ es ∨ ¬ S e.rid) : RQ S N0 q (setEnts g) := fun w =>
  .of (hg w.ents) (fun _ _ _ => rfl) id fun _ => rfl
theorem rq_remove (a : Nat) (b : Box) (k : Nat) : RQ S N0 q (setEnts fun es => Ents.remove es a b k) :=
  rq_setEnts fun _ _ he => Or.inl (Ents.mem_remove he)
theorem rq_dropFirst (a : Nat) (b : Box) : RQ S N0 q (setEnts fun es => Ents.dropFirst es a b) :=
  rq_setEnts fun _ _ he => Or.inl (Ents.mem_dropFirst he)
theorem rq_insert (a : Nat) (b : Box) (k rid : Nat) (hr : ¬ S rid) : RQ S N0 q (setEnts fun es => Ents.insert es a b k rid) :=
  rq_setEnts fun _ _ he => (Ents.mem_insert he).elim Or.inl fun h => Or.inr (h ▸ hr)

theorem rq_newReq {f : World → World} (nid : Nat) (hn : N0 ≤ nid)
    (h : ∀ w, (f w).ents = w.ents ∧ (∃ r, (f w).reqs = w.reqs.set nid r) ∧ (f w).nextReq = nid + 1 ∧ ∀ q', (f w).paddr q' = w.paddr q') :
    RQ S N0 q (Step.mod f) := fun w =>
  .of (w' := f w) (fun e he => Or.inl ((h w).1 ▸ he))
    (fun r _ hr => by
      obtain ⟨x, hx⟩ := (h w).2.1
      rw [hx, Dict.get?_set, if_neg (by omega)])
    (fun _ => by rw [(h w).2.2.1]; omega) (h w).2.2.2

theorem rq_callLater (d : Rat) (k : TKind) {c : Nat → Step} (hc : ∀ t, RQ S N0 q (c t)) : RQ S N0 q (callLater d k c) :=
  rq_closed.callLater d k (rq_mod fun _ => ⟨rfl, rfl, rfl, rfl⟩) hc
theorem rq_newDfd {c : Nat → Step} (hc : ∀ t, RQ S N0 q (c t)) : RQ S N0 q (newDfd c) :=
  rq_closed.newDfd (fun _ => rq_mod fun _ => ⟨rfl, rfl, rfl, rfl⟩) hc
theorem rq_makeId {c : Nat → Step} (hc : ∀ t, RQ S N0 q (c t)) : RQ S N0 q (makeId c) :=
  rq_closed.makeId (fun _ => rq_mod fun _ => ⟨rfl, rfl, rfl, rfl⟩) hc
theorem rq_cancelTimer (t : Nat) : RQ S N0 q (cancelTimer t) :=
  rq_closed.cancelTimer t fun _ => rq_mod fun _ => ⟨rfl, rfl, rfl, rfl⟩
theorem rq_fireDfd (d : Nat) (o : Outcome) : RQ S N0 q (fireDfd d o) :=
  rq_closed.fireDfd d o (rq_mod fun _ => ⟨rfl, rfl, rfl, rfl⟩) (rq_emit _)

/-! ### the retry helpers write the one request they are given, the loops the requests of `q`'s entries -/

theorem Sent.rstep {p rid : Nat} {w w' : World} (s : Sent p rid w w') (hr : ¬ S rid) : RStep S N0 q w w' :=
  .of (fun _ he => Or.inl (s.ents ▸ he)) (fun r hs _ => by rw [s.reqs, if_neg fun hc : rid = r => hr (hc ▸ hs)]) (fun hn => s.nextReq ▸ hn)
    fun _ => by simp only [World.paddr, World.proto, s.protos]

theorem rq_sent {p rid : Nat} {f : World → World} (hf : ∀ w, Sent p rid w (f w)) (hr : ¬ S rid) : RQ S N0 q (Step.mod f) :=
  fun w => (hf w).rstep hr

/-- not by `refillW_rel`: that the request sent is unprotected is known from the queue it headed, before the round -/
theorem refillW_rstep (dup : Bool) : ∀ fuel w, RStep S N0 q w (refillW q dup fuel w) := by
  intro fuel
  induction fuel with
  | zero => exact RStep.refl
  | succ f ih =>
    intro w h
    simp only [refillW]
    split
    · exact RStep.refl w h
    · rename_i e rest heq
      have hrid : ¬ S e.rid := h.items (heq ▸ List.mem_cons_self)
      split
      · refine ((RStep.trans ?_ (rq_sent (retryPublishW_sent q e.rid dup) hrid _)).trans (ih _)) h
        split
        · exact (rq_dropFirst _ _ w).trans (rq_insert _ _ _ _ hrid _)
        · exact rq_dropFirst _ _ w
      · exact RStep.refl w h

theorem rq_refill : RQ S N0 q (refill q) := fun w => refillW_rstep false _ w

theorem rq_syncSession : RQ S N0 q (syncSession q) := by
  intro w h
  have h1 := foldl_rel_mem (R := RStep S N0 q) RStep.refl RStep.trans (Ents.items w.ents (w.paddr q) .rel)
    (fun w e => if (w.req e.rid).alarm = none then retryReleaseW q e.rid true w else w) (fun e he w => by
      split
      · exact rq_sent (retryReleaseW_sent q e.rid true) (h.items he) w
      · exact RStep.refl w) w
  refine h1.trans (foldl_rel_mem RStep.refl RStep.trans _ _ (fun e he w => ?_) _) h
  split
  · exact rq_sent (retryPublishW_sent q e.rid true) ((h1 h).1.items he) w
  · exact RStep.refl w

theorem rq_loopRun (p : Nat) : RQ S N0 q (loopRun p) :=
  rq_closed.loopRun
    (rq_closed.ping (rq_closed.doPingRequest (rq_emit _) fun _ => rq_callLater _ _ fun _ => rq_setProto _ _ fun _ => rfl))
    (fun _ => rq_callLater _ _ fun _ => rq_setProto _ _ fun _ => rfl) (rq_setProto _ _ fun _ => rfl)

theorem rq_handlePUBREC (m : Nat) : RQ S N0 q (handlePUBREC q m) := by
  unfold handlePUBREC
  generalize encodePUBREL (m : Int) = E
  refine rq_closed.read fun w => ?_
  split
  · exact rq_closed.ok
  · split
    · exact rq_closed.ok
    · refine rq_closed.seq (rq_closed.cancelAlarm _ rq_cancelTimer) (rq_closed.seq (rq_remove _ _ _) ?_)
      cases E with
      | error e => exact rq_closed.raise _
      | ok bs =>
        exact rq_read fun w' hw' => rq_closed.seq (rq_newReq _ hw'.next fun _ => ⟨rfl, ⟨_, rfl⟩, rfl, fun _ => rfl⟩)
          (rq_closed.seq (rq_insert _ _ _ _ hw'.fresh) (rq_sent (retryReleaseW_sent _ _ _) hw'.fresh))

theorem rq_processPacket (pkt : Bytes) : RQ S N0 q (processPacket q pkt) :=
  rq_closed.processPacket_prims pkt (rq_emit _) (rq_emit _) (fun _ => rq_emit _) (fun _ _ _ _ _ => rq_emit _) rq_cancelTimer
    (fun _ _ => rq_fireDfd _ _) (fun _ _ => rq_fireDfd _ _) (fun _ _ _ => rq_remove _ _ _) (fun _ => rq_mod fun _ => ⟨rfl, rfl, rfl, rfl⟩)
    rq_syncSession rq_refill (rq_loopRun q) rq_handlePUBREC fun _ h => rq_setProto _ _ fun pr => (h pr).1

theorem rq_cancelWindowAlarms (l : List Ent) (hl : ∀ e ∈ l, ¬ S e.rid) : RQ S N0 q (cancelWindowAlarms l) := by
  induction l with
  | nil => exact rq_closed.ok
  | cons e r ih =>
    refine rq_closed.seq (rq_closed.read fun w => ?_) (ih fun x hx => hl x (.tail _ hx))
    split
    · exact rq_closed.ok
    · exact rq_closed.seq (rq_cancelTimer _) (rq_setReq _ _ (hl e (.head _)))

/-- the windows whose alarms are cancelled are those of the world read at the start -/
theorem rq_doConnectionLost (r : Err) : RQ S N0 q (doConnectionLost q r) := by
  have hfail : ∀ b, RQ S N0 q (failWindow q b r) := fun b =>
    rq_closed.failWindow b r (fun _ _ _ => rq_remove _ _ _) fun _ => rq_fireDfd _ _
  refine rq_read fun w hw => ?_
  have hw : ∀ b, RQ S N0 q (cancelWindowAlarms (Ents.items w.ents (w.paddr q) b)) := fun b =>
    rq_cancelWindowAlarms _ fun e he => hw.items he
  refine rq_closed.seq (hw _) (rq_closed.seq (hw _) (rq_closed.seq (hw _) (rq_closed.seq (hw _)
    (rq_closed.seq (hfail _) (rq_closed.seq (hfail _) (rq_closed.read fun w' => ?_))))))
  split
  · exact rq_closed.seq (rq_closed.purgeSession _ (fun _ _ _ => rq_remove _ _ _) fun _ => rq_fireDfd _ _)
      (rq_closed.read fun _ => rq_closed.drainQueue _ _ (fun _ => rq_dropFirst _ _) fun _ => rq_fireDfd _ _)
  · exact rq_closed.ok

theorem rq_connectionLost (r : Err) : RQ S N0 q (connectionLost q r) :=
  rq_closed.connectionLost r
    (rq_closed.loopStop (rq_setProto _ _ fun _ => rfl) rq_cancelTimer (rq_setProto _ _ fun _ => rfl))
    (rq_setProto _ _ fun _ => rfl) rq_cancelTimer (rq_setProto _ _ fun _ => rfl) (rq_doConnectionLost r)
    (rq_setProto _ _ fun _ => rfl) (rq_callLater _ _ fun _ => rq_closed.ok)

/-- `hrid`: a retry timer names the request it writes -/
theorem rq_runTimer (k : TKind) (hk : k.on q) (hrid : ∀ rid, k = .retry q rid → ¬ S rid) : RQ S N0 q (runTimer k) := by
  cases k with
  | connack cr =>
    exact rq_closed.runTimer_connack cr (fun _ => rq_fireDfd _ _) (fun _ => rq_mod fun _ => ⟨rfl, rfl, rfl, rfl⟩)
      fun _ => rq_emit _
  | pingLoop p => exact rq_closed.seq (rq_setProto _ _ fun _ => rfl) (rq_loopRun p)
  | pingAlarm p => exact rq_closed.seq (rq_setProto _ _ fun _ => rfl) (rq_emit _)
  | retry p rid =>
    cases hk
    have hr := hrid rid rfl
    exact rq_closed.runTimer_retry _ rid (rq_sent (retryPublishW_sent _ _ _) hr) (rq_sent (retryReleaseW_sent _ _ _) hr) fun _ => rq_sent (retrySubUnsubW_sent _ _ _ _) hr
  | onDisc p r => exact rq_emit _

theorem rq_mkStep (pr : Proto) (qn mid : Nat) (dfd : Option Nat) (bs : Bytes) : RQ S N0 q (mkStep q pr qn mid dfd bs) :=
  rq_read fun _ hw => rq_closed.seq (rq_newReq _ hw.next fun _ => ⟨rfl, ⟨_, rfl⟩, rfl, fun _ => rfl⟩)
    (rq_closed.seq (rq_setEnts fun _ _ he => (List.mem_append.mp he).elim Or.inl fun h => Or.inr (List.mem_singleton.mp h ▸ hw.fresh)) rq_refill)

theorem rq_registerSubUnsub (isSub : Bool) (i : Nat) (bs : Bytes) : RQ S N0 q (registerSubUnsub q isSub i bs) :=
  rq_read fun _ hw => rq_newDfd fun _ => rq_closed.seq (rq_newReq _ hw.next fun _ => ⟨rfl, ⟨_, rfl⟩, rfl, fun _ => rfl⟩)
    (rq_closed.seq (rq_insert _ _ _ _ hw.fresh) (rq_closed.seq (rq_sent (retrySubUnsubW_sent _ _ _ _) hw.fresh) (rq_emit _)))

theorem rstep_handler {w : World} {op : Op} (hop : op.proto? w = some q)
    (hrid : ∀ t rid, Pending w t (.retry q rid) → ¬ S rid) : RStep S N0 q w (op.handler w).1 := by
  cases op with
  | build a => cases hop
  | jit v => cases hop
  | setid v => cases hop
  | sethandlers p m => cases hop; exact (show RQ S N0 q (apiSetHandlers q m) from rq_setProto _ _ fun _ => rfl) w
  | connect p a =>
    cases hop
    exact rq_closed.apiConnect a (fun _ => rq_emit _) (rq_setProto _ _ fun _ => rfl) (fun _ _ => rq_emit _)
      (rq_setProto _ _ fun _ => rfl) (fun _ _ => rq_callLater _ _ fun _ => rq_newDfd fun _ =>
        rq_closed.seq (rq_mod fun _ => ⟨rfl, rfl, rfl, rfl⟩) (rq_closed.seq (rq_setProto _ _ fun _ => rfl) (rq_emit _))) w
  | disconnect p => cases hop; exact rq_closed.apiDisconnect (rq_emit _) (rq_emit _) (rq_emit _) w
  | publish p t pl qs r => cases hop; exact rq_closed.apiPublish t pl qs r (fun _ => rq_emit _) (rq_emit _) (fun _ _ => rq_emit _) rq_makeId rq_newDfd rq_mkStep w
  | subscribe p a qs => cases hop; exact rq_closed.apiSubscribe a qs (fun _ => rq_emit _) rq_makeId (rq_registerSubUnsub true) w
  | unsubscribe p a => cases hop; exact rq_closed.apiUnsubscribe a (fun _ => rq_emit _) rq_makeId (rq_registerSubUnsub false) w
  | setwin p n => cases hop; exact rq_closed.apiSetWindow n (fun _ _ => rq_setProto _ _ fun _ => rfl) (rq_emit _) w
  | settimeout p n => cases hop; exact rq_closed.apiSetTimeout n (fun _ => rq_setProto _ _ fun _ => rfl) (rq_emit _) w
  | setbw p b f => cases hop; exact rq_closed.apiSetBandwith b f (rq_setProto _ _ fun _ => rfl) (rq_emit _) w
  | recv p d =>
    cases hop
    exact rq_closed.dataReceived d rq_processPacket (rq_setProto _ _ fun _ => rfl) (fun _ => rq_setProto _ _ fun _ => rfl) w
  | lost p r => cases hop; exact rq_connectionLost r w
  | fire t =>
    refine fireTimer_at (Q := fun r => RStep S N0 q w r.1) t w (rq_emit _ w) fun tm ht hs => (?_ : RQ S N0 q _) w
    exact rq_closed.seq (rq_mod fun _ => ⟨rfl, rfl, rfl, rfl⟩)
      (rq_runTimer _ (kind_on_of_proto? ht hop) fun rid hk => hrid t rid ⟨tm, ht, hs, hk⟩)

end rq

/-- **request objects**: an operation run by a protocol of another address leaves every request object that the dictionaries of
    address `A` refer to exactly as it was -- packet bytes, identifier, QoS, Deferred, retry-timer reference, retry interval.
    (`WInv`: the two addresses' entries refer to different request objects, `ridUnique`; a retry timer belongs to an entry of its
    protocol's address, `noStale` + `alarm`.) -/
theorem other_step_requests {w : World} (hw : WInv w) {op : Op} {q A : Nat} (hop : op.proto? w = some q) (hq : w.paddr q ≠ A) :
    ∀ e ∈ w.ents, e.addr = A → (step w op).reqs.get? e.rid = w.reqs.get? e.rid := by
  let S : Nat → Prop := fun r => ∃ e ∈ w.ents, e.addr = A ∧ e.rid = r
  have hgood : RGood S w.nextReq q w :=
    ⟨fun e he ha ⟨e', he', ha', hr'⟩ => by
        have := hw.ridUnique e' he' e he hr'
        subst this
        exact hq (ha.symm.trans ha'),
     fun r ⟨e, he, _, hr⟩ => hr ▸ hw.ridFresh e he, Nat.le_refl _⟩
  have hrid : ∀ t rid, Pending w t (.retry q rid) → ¬ S rid := by
    intro t rid hpend ⟨e', he', ha', hr'⟩
    obtain ⟨e0, he0, hr0, hal⟩ := hw.noStale t q rid hpend
    obtain ⟨_, p, pr, hp2, hpp, hpa⟩ := hw.alarm e0 he0 t (by rw [hr0]; exact hal)
    have hk2 := pending_kind hp2 hpend
    injection hk2 with hpq _
    subst hpq
    have := hw.ridUnique e' he' e0 he0 (hr'.trans hr0.symm)
    subst this
    have hpad : w.paddr p = pr.addr := by simp [World.paddr, getD_of_get? hpp]
    exact hq (by rw [hpad, hpa]; exact ha')
  intro e he ha
  exact Step.Rel.step (R := fun w w' => w'.reqs.get? e.rid = w.reqs.get? e.rid)
    ((rstep_handler hop hrid hgood).2.2 e.rid ⟨e, he, ha, rfl⟩) fun _ _ h => h

end Mqtt
