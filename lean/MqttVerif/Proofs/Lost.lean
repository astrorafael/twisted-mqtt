import MqttVerif.Proofs.Recv
/-
  `connectionLost`: keepalive stopped, retry timers cancelled, SUBSCRIBE/UNSUBSCRIBE requests failed,
  the session purged or preserved, the protocol marked lost, the notification scheduled.
-/
namespace Mqtt

variable {x : Option Nat} {w : World} {p : Nat} {ppr : Proto}

/-! ### the keepalive is stopped -/

theorem stopLoop_inv (h : WInvX x w) (hpp : w.protos.get? p = some ppr) :
    Step.Returns (match ppr.pingTimer with
      | none => Step.ok
      | some _ => loopStop p ;; setProto p fun pr => { pr with pingTimer := none }) w fun w' =>
      WInvX x w' ∧ w'.protos.get? p = some { ppr with pingTimer := none } ∧ w'.reqs = w.reqs ∧ CoreSame w w' := by
  cases hl : ppr.pingTimer with
  | none => exact .of_eq rfl ⟨h, by rw [hpp, ← hl], rfl, .refl w⟩
  | some l =>
    obtain ⟨run, iv, call⟩ := l
    obtain ⟨rfl, -⟩ := h.pingTimer p ppr _ hpp hl
    cases call with
    | none =>
      refine .of_eq (w1 := loopDropW w p ppr) ?_ ⟨loopDrop_inv h hpp fun l' hl' => by cases hl.symm.trans hl'; rfl,
        by simp [loopDropW, Dict.get?_set], rfl, rfl, rfl, rfl, rfl, fun _ => ⟨rfl, rfl, rfl⟩⟩
      simp only [Step.seq, loopStop, Step.read, Step.ok, setProto, Step.mod, World.proto, hpp, hl, Dict.get?_set, Dict.set_set,
        Option.getD_some, Bool.not_true, Bool.false_eq_true, ↓reduceIte, Option.map_some, loopDropW]
    | some t =>
      obtain ⟨tm, htm, hts, hK⟩ := loopKill_inv h hpp _ hl t rfl .cancelled (by simp) none (Or.inl rfl) w.now
      refine .of_eq (w1 := loopKillW w p ppr t tm .cancelled none w.now) ?_ ⟨hK, by simp [loopKillW, Dict.get?_set], rfl,
        rfl, rfl, rfl, rfl, fun _ => ⟨rfl, rfl, rfl⟩⟩
      simp only [Step.seq, loopStop, Step.read, setProto, Step.mod, cancelTimer, World.proto, hpp, hl, htm, hts, Dict.get?_set,
        Dict.set_set, Option.getD_some, Bool.not_true, Bool.false_eq_true, ↓reduceIte, Option.map_some, loopKillW]

theorem stopAlarm_inv (h : WInvX x w) (hpp : w.protos.get? p = some ppr) :
    Step.Returns (match ppr.pingAlarm with
      | none => Step.ok
      | some tid => cancelTimer tid ;; setProto p fun pr => { pr with pingAlarm := none }) w fun w' =>
      WInvX x w' ∧ w'.protos.get? p = some { ppr with pingAlarm := none } ∧ w'.reqs = w.reqs ∧ CoreSame w w' := by
  cases hpa : ppr.pingAlarm with
  | none => exact .of_eq rfl ⟨h, by rw [hpp, ← hpa], rfl, .refl w⟩
  | some t =>
    obtain ⟨tm, htm, hts, hO⟩ := pingOff_inv h p ppr hpp t hpa .cancelled (by simp) w.now w.log
    exact .seq_eq (cancelTimer_at w t tm htm hts) (.of_eq (setProto_eq hpp)
      ⟨hO, by simp [Dict.get?_set], rfl, rfl, rfl, rfl, rfl, fun _ => ⟨rfl, rfl, rfl⟩⟩)

/-! ### the retry timers of the connection are cancelled -/

structure Disarmed (w w' : World) : Prop where
  protos : w'.protos = w.protos
  ents : w'.ents = w.ents
  fired : w'.fired = w.fired
  connReqs : w'.connReqs = w.connReqs
  nextDfd : w'.nextDfd = w.nextDfd
  req : ∀ rid, (w'.req rid).dfd = (w.req rid).dfd ∧ (w'.req rid).msgId = (w.req rid).msgId ∧
    ((w.req rid).alarm = none → (w'.req rid).alarm = none)
  same : ∀ rid, (w'.req rid).encoded = (w.req rid).encoded ∧ (w'.req rid).kind = (w.req rid).kind ∧ (w'.req rid).qos = (w.req rid).qos

theorem Disarmed.refl (w : World) : Disarmed w w := ⟨rfl, rfl, rfl, rfl, rfl, fun _ => ⟨rfl, rfl, id⟩, fun _ => ⟨rfl, rfl, rfl⟩⟩

theorem Disarmed.trans {w1 w2 w3 : World} (a : Disarmed w1 w2) (b : Disarmed w2 w3) : Disarmed w1 w3 :=
  ⟨b.protos.trans a.protos, b.ents.trans a.ents, b.fired.trans a.fired, b.connReqs.trans a.connReqs, b.nextDfd.trans a.nextDfd,
   fun rid => ⟨(b.req rid).1.trans (a.req rid).1, (b.req rid).2.1.trans (a.req rid).2.1, fun h => (b.req rid).2.2 ((a.req rid).2.2 h)⟩,
   fun rid => ⟨(b.same rid).1.trans (a.same rid).1, (b.same rid).2.1.trans (a.same rid).2.1, (b.same rid).2.2.trans (a.same rid).2.2⟩⟩

theorem Disarmed.coreSame {w w' : World} (d : Disarmed w w') : CoreSame w w' :=
  ⟨d.ents, d.fired, d.connReqs, d.nextDfd, fun r => ⟨(d.req r).1, (d.req r).2.1, (d.same r).2.2⟩⟩

theorem cancelLoop_inv (hnl : ppr.lost = false) : ∀ (l : List Ent) {w : World}, WInvX (some p) w → w.protos.get? p = some ppr →
    (∀ e ∈ l, e ∈ w.ents ∧ e.addr = ppr.addr) →
    Step.Returns (cancelWindowAlarms l) w fun w' => WInvX (some p) w' ∧ Disarmed w w' ∧ ∀ e ∈ l, (w'.req e.rid).alarm = none
  | [], w, h, _, _ => .of_eq rfl ⟨h, .refl w, nofun⟩
  | e :: l, w, h, hpp, hl => by
    obtain ⟨he, hea⟩ := hl e (.head _)
    have h1 : Step.Returns (Step.read fun w => match (w.req e.rid).alarm with
        | none => Step.ok
        | some tid => cancelTimer tid ;; setReq e.rid fun r => { r with alarm := none }) w fun w1 =>
        WInvX (some p) w1 ∧ Disarmed w w1 ∧ (w1.req e.rid).alarm = none := by
      rw [Step.returns_read]
      cases hal : (w.req e.rid).alarm with
      | none => exact .of_eq rfl ⟨h, .refl w, hal⟩
      | some t =>
        obtain ⟨hq, p0, pr0, hpe, _⟩ := h.alarm e he t hal
        have hD := disarm_inv h he hal
          (fun q qr hq' hx hl' _ hc => hx (congrArg some (h.oneLive q p qr ppr hq' hpp hl' hnl (hc.trans hea))))
          fun _ => ⟨p, ppr, rfl, hpp, hea.symm⟩
        have hreq : ∀ r, (disarm w e t).req r = if e.rid = r then { w.req e.rid with alarm := none } else w.req r :=
          fun r => req_set w e.rid _ r _ rfl
        refine .seq_eq (cancelTimer_pending w t _ hpe) (.of_eq (w1 := disarm w e t) rfl
          ⟨hD, ⟨rfl, rfl, rfl, rfl, rfl, fun rid => ?_, fun rid => ?_⟩, by rw [hreq, if_pos rfl]⟩)
        all_goals
          rw [hreq]
          by_cases hr : e.rid = rid
          · subst hr
            simp
          · simp [hr]
    refine .seq h1 fun w1 ⟨i1, d1, a1⟩ => (cancelLoop_inv hnl l i1 (d1.protos ▸ hpp) fun e' he' =>
      ⟨d1.ents ▸ (hl e' (.tail _ he')).1, (hl e' (.tail _ he')).2⟩).mono fun w2 ⟨i2, d2, a2⟩ => ⟨i2, d1.trans d2, fun e' he' => ?_⟩
    rcases List.mem_cons.mp he' with rfl | he'
    · exact (d2.req _).2.2 a1
    · exact a2 e' he'

/-! ### pending SUBSCRIBE/UNSUBSCRIBE requests fail -/

theorem Removed.kq {w w' : World} (r : Removed w w') : KQ w w' := fun hq =>
  ⟨keeps_removed (fun _ => by rw [req_of_reqs r.reqs]) r.connReqs r.nextDfd r.fmono fun y hy =>
      (r.gone y hy).imp id fun h => h.elim (fun h0 d hd => by rw [(hq y hy).1 h0] at hd; cases hd) id,
    q0_removed (fun _ => by rw [req_of_reqs r.reqs]; exact ⟨rfl, rfl, rfl⟩) r.sub hq⟩

theorem failLoop_inv (box : Box) (hbq : box ≠ .queue) (reason : Err) : ∀ (l : List Ent) {w : World}, WInvX x w →
    (∀ e ∈ l, e ∈ w.ents ∧ e.box = box ∧ (w.req e.rid).alarm = none) → l.Nodup →
    Step.Returns (forEach l fun e => setEnts (fun es => Ents.remove es e.addr box e.key) ;;
        Step.read fun w => fireReqDfd (w.req e.rid).dfd (.fail reason)) w fun w' =>
      WInvX x w' ∧ Removed w w' ∧ ∀ y, y ∈ w'.ents ↔ y ∈ w.ents ∧ y ∉ l
  | [], w, h, _, _ => .of_eq rfl ⟨h, .refl w, fun y => by simp⟩
  | e :: l, w, h, hl, hnd => by
    obtain ⟨he, heb, hal⟩ := hl e (.head _)
    have hq : e.box ≠ .queue := heb ▸ hbq
    have hnd' := List.nodup_cons.mp hnd
    have hk := h.keyId e he hq
    have hmem := mem_remove_iff h he hq
    refine .seq (.seq_eq rfl (.read (dropFail_inv h he hal (hk.1 ▸ hk.2) (Ents.remove_nodup h.nodup _ _ _) (heb ▸ hmem) reason)))
      fun w1 ⟨i1, e1, r1⟩ => ?_
    have hm1 : ∀ y, y ∈ w1.ents ↔ y ∈ w.ents ∧ y ≠ e := fun y => by rw [e1, ← heb]; exact hmem y
    refine (failLoop_inv box hbq reason l i1 (fun e' he' => ?_) hnd'.2).mono fun w2 ⟨i2, r2, m2⟩ => ⟨i2, r1.trans r2, fun y => ?_⟩
    · obtain ⟨a, b, c⟩ := hl e' (.tail _ he')
      exact ⟨(hm1 e').mpr ⟨a, fun hc => hnd'.1 (hc ▸ he')⟩, b, by rw [req_of_reqs r1.reqs]; exact c⟩
    · rw [m2 y, hm1 y, List.mem_cons, not_or, and_assoc]

/-! ### the held-back messages of a clean session fail -/

theorem drainQueue_inv (p : Nat) (reason : Err) : ∀ (fuel : Nat) {w : World}, WInvX x w →
    Step.Returns (drainQueue p reason fuel) w fun w' => WInvX x w' ∧ Removed w w' ∧
      Ents.items w'.ents (w.paddr p) .queue = (Ents.items w.ents (w.paddr p) .queue).drop fuel
  | 0, w, h => .of_eq rfl ⟨h, .refl w, rfl⟩
  | f + 1, w, h => by
    rw [drainQueue, Step.returns_read]
    cases hit : Ents.items w.ents (w.paddr p) .queue with
    | nil => exact .of_eq rfl ⟨h, .refl w, by rw [hit]; rfl⟩
    | cons e rest =>
      obtain ⟨he, hea, heb⟩ := Ents.mem_items.mp (hit ▸ List.mem_cons_self)
      obtain ⟨hd1, hd2, hd3⟩ := Ents.dropFirst_spec hit h.nodup
      have hal := h.queueNoAlarm e he heb
      have h1 : Step.Returns (if (w.req e.rid).msgId ≠ 0 then fireReqDfd (w.req e.rid).dfd (.fail reason) else Step.ok)
          (w.setEnts fun es => Ents.dropFirst es (w.paddr p) .queue) fun w1 =>
          WInvX x w1 ∧ w1.ents = Ents.dropFirst w.ents (w.paddr p) .queue ∧ Removed w w1 := by
        split
        · exact dropFail_inv h he hal ‹_› hd3 hd1 reason
        · exact .of_eq rfl ⟨dropQuiet_inv h hal _ hd3 hd1, rfl, .drop hd1 rfl rfl rfl rfl rfl (fun _ hd' => hd')
            (.inl (Classical.not_not.mp ‹_›))⟩
      refine .seq_eq rfl (.seq h1 fun w1 ⟨i1, e1, r1⟩ => (drainQueue_inv p reason f i1).mono fun w2 ⟨i2, r2, m2⟩ =>
        ⟨i2, r1.trans r2, ?_⟩)
      have hpa : w1.paddr p = w.paddr p := by simp only [World.paddr, World.proto, r1.protos]
      rw [hpa, e1, hd2] at m2
      exact m2

/-! ### MQTTProtocol.doConnectionLost -/

def Quiet (w : World) (a : Nat) : Prop := ∀ e ∈ w.ents, e.addr = a → e.box ≠ .queue → (w.req e.rid).alarm = none

theorem Quiet.removed {w w' : World} {a : Nat} (h : Quiet w a) (r : Removed w w') : Quiet w' a :=
  fun e he ha hq => by rw [req_of_reqs r.reqs]; exact h e (r.sub e he) ha hq

theorem failWindow_inv (h : WInvX x w) (p : Nat) (isSub : Bool) (reason : Err) (hq : Quiet w (w.paddr p)) :
    Step.Returns (failWindow p isSub reason) w fun w' => WInvX x w' ∧ Removed w w' ∧
      ∀ y, y ∈ w'.ents ↔ y ∈ w.ents ∧ ¬ (y.addr = w.paddr p ∧ y.box = if isSub then .sub else .unsub) := by
  have hbq : (if isSub then Box.sub else Box.unsub) ≠ .queue := by cases isSub <;> simp
  refine .read ((failLoop_inv _ hbq reason _ h (fun e he => ?_) (Ents.items_nodup h.nodup _ _)).mono fun w' ⟨i, r, m⟩ =>
    ⟨i, r, fun y => by rw [m y, Ents.mem_items, not_and]; exact ⟨fun a => ⟨a.1, a.2 a.1⟩, fun a => ⟨a.1, fun _ => a.2⟩⟩⟩)
  obtain ⟨a, b, c⟩ := Ents.mem_items.mp he
  exact ⟨a, c, hq e a b (c ▸ hbq)⟩

def NoSub (w : World) (a : Nat) : Prop := ∀ e ∈ w.ents, e.addr = a → e.box ≠ .sub ∧ e.box ≠ .unsub

theorem doConnectionLost_inv (h : WInvX (some p) w) (hpp : w.protos.get? p = some ppr) (hnl : ppr.lost = false) (reason : Err) :
    Step.Returns (doConnectionLost p reason) w fun w' => ∃ w4, Disarmed w w4 ∧ Removed w4 w' ∧ WInvX (some p) w' ∧
      Quiet w' ppr.addr ∧ NoSub w' ppr.addr ∧ (ppr.cleanStart = true → ∀ y ∈ w'.ents, y.addr ≠ ppr.addr) ∧
      (ppr.cleanStart = false → ∀ y, y ∈ w'.ents ↔ y ∈ w.ents ∧ ¬ (y.addr = ppr.addr ∧ (y.box = .sub ∨ y.box = .unsub))) := by
  have hpa : ∀ w' : World, w'.protos = w.protos → w'.paddr p = ppr.addr := fun w' e => by
    simp only [World.paddr, World.proto, e, hpp, Option.getD_some]
  have hitems : ∀ (b : Box) (w' : World), w'.ents = w.ents → ∀ e ∈ Ents.items w.ents ppr.addr b, e ∈ w'.ents ∧ e.addr = ppr.addr :=
    fun b w' hw' e he => ⟨hw' ▸ (Ents.mem_items.mp he).1, (Ents.mem_items.mp he).2.1⟩
  simp only [doConnectionLost, Step.returns_read, hpa w rfl]
  refine .seq (cancelLoop_inv hnl _ h hpp (hitems _ w rfl)) fun w1 ⟨a2, a3, a4⟩ => ?_
  refine .seq (cancelLoop_inv hnl _ a2 (a3.protos ▸ hpp) (hitems _ w1 a3.ents)) fun w2 ⟨b2, b3, b4⟩ => ?_
  have d2 := a3.trans b3
  refine .seq (cancelLoop_inv hnl _ b2 (d2.protos ▸ hpp) (hitems _ w2 d2.ents)) fun w3 ⟨c2, c3, c4⟩ => ?_
  have d3 := d2.trans c3
  refine .seq (cancelLoop_inv hnl _ c2 (d3.protos ▸ hpp) (hitems _ w3 d3.ents)) fun w4 ⟨e2, e3, e4⟩ => ?_
  have d4 := d3.trans e3
  have hq4 : Quiet w4 ppr.addr := by
    intro y hy hya hyq
    rw [d4.ents] at hy
    cases hb : y.box with
    | queue => exact absurd hb hyq
    | sub => exact (e3.req _).2.2 ((c3.req _).2.2 ((b3.req _).2.2 (a4 y (Ents.mem_items.mpr ⟨hy, hya, hb⟩))))
    | unsub => exact (e3.req _).2.2 ((c3.req _).2.2 (b4 y (Ents.mem_items.mpr ⟨hy, hya, hb⟩)))
    | pub => exact (e3.req _).2.2 (c4 y (Ents.mem_items.mpr ⟨hy, hya, hb⟩))
    | rel => exact e4 y (Ents.mem_items.mpr ⟨hy, hya, hb⟩)
  have hpa4 := hpa w4 d4.protos
  refine .seq (failWindow_inv e2 p true reason (hpa4 ▸ hq4)) fun w5 ⟨f2, f3, f5⟩ => ?_
  have hpa5 := hpa w5 (f3.protos.trans d4.protos)
  refine .seq (failWindow_inv f2 p false reason (hpa5 ▸ hq4.removed f3)) fun w6 ⟨g2, g3, g5⟩ => ?_
  have r6 := f3.trans g3
  have hpp6 : w6.protos.get? p = some ppr := (r6.protos.trans d4.protos) ▸ hpp
  have m6 : ∀ y, y ∈ w6.ents ↔ y ∈ w.ents ∧ ¬ (y.addr = ppr.addr ∧ (y.box = .sub ∨ y.box = .unsub)) := fun y => by
    rw [g5 y, f5 y, hpa5, hpa4, d4.ents, and_assoc, ← not_or, ← and_or_left]
    rfl
  have hq6 := hq4.removed r6
  have hns6 : NoSub w6 ppr.addr := fun y hy hya =>
    ⟨fun hb => ((m6 y).mp hy).2 ⟨hya, .inl hb⟩, fun hb => ((m6 y).mp hy).2 ⟨hya, .inr hb⟩⟩
  simp only [Step.returns_read, getD_of_get? hpp6]
  by_cases hcs : ppr.cleanStart = true
  · rw [if_pos hcs]
    obtain ⟨k1, k2, k3, k4, k5, k6, k7, _, k9, k10, k11, k12⟩ := purgeSession_inv g2 p reason
    have r7 : Removed w6 (purgeSession p reason w6).1 := ⟨k3, k4, k5, k6, k7, k10, k11, fun y hy => (k12 y hy).imp id .inr⟩
    refine .seq_eq (Prod.ext rfl k1) (.read ((drainQueue_inv p reason _ k2).mono fun w8 ⟨m2, m3, m4⟩ => ?_))
    have r8 := (r6.trans r7).trans m3
    refine ⟨w4, d4, r8, m2, hq4.removed r8, fun y hy => hns6 y ((r7.trans m3).sub y hy), fun _ y hy hya => ?_, fun hc => nomatch hcs.symm.trans hc⟩
    have hy7 := m3.sub y hy
    have hpa6 := hpa w6 (r6.protos.trans d4.protos)
    have hqy := fun hb : y.box ≠ .queue => (hq6.removed r7) y hy7 hya hb
    cases hb : y.box with
    | sub => exact (hns6 y ((r7.trans m3).sub y hy) hya).1 hb
    | unsub => exact (hns6 y ((r7.trans m3).sub y hy) hya).2 hb
    | pub => exact k9 y hy7 (hya.trans hpa6.symm) (.inl hb) (hqy (by simp [hb]))
    | rel => exact k9 y hy7 (hya.trans hpa6.symm) (.inr hb) (hqy (by simp [hb]))
    | queue =>
      have hpa7 := hpa _ ((r6.trans r7).protos.trans d4.protos)
      have hin := Ents.mem_items.mpr ⟨hy, hya.trans hpa7.symm, hb⟩
      rw [m4] at hin
      simp [Ents.count] at hin
  · rw [if_neg hcs]
    exact .of_eq rfl ⟨w4, d4, r6, g2, hq6, hns6, fun hc => absurd hc hcs, fun _ => m6⟩

/-! ### the protocol is marked lost; the notification is scheduled -/

def lostW (w : World) (p : Nat) (ppr : Proto) : World :=
  { w with protos := w.protos.set p { ppr with state := .idle, lost := true } }

theorem lost_inv (h : WInvX x w) (hpp : w.protos.get? p = some ppr) (hpt : ppr.pingTimer = none) (hpa : ppr.pingAlarm = none)
    (hq : Quiet w ppr.addr) : WInvX x (lostW w p ppr) :=
  have o := ProtoLocal.of_inv h hpp
  have hnoretry : ∀ t rid, ¬ Pending w t (.retry p rid) := fun t rid hp' => by
    obtain ⟨e, he, rfl, hal⟩ := h.noStale t p rid hp'
    obtain ⟨hbq, q, qr, hpq, hq', hqa⟩ := h.alarm e he t hal
    cases pending_kind hp' hpq
    cases hpp.symm.trans hq'
    cases (hq e he hqa.symm hbq).symm.trans hal
  ProtoLocal.set h hpp rfl (fun hl => nomatch hl)
    { o with
      dead := fun _ => ⟨hnoretry, rfl, hpt, hpa⟩
      connected := fun hs' => nomatch hs'
      pingTimer := fun l hl => nomatch hpt.symm.trans hl
      connecting := fun hs' => nomatch hs'
      connackOwned := fun _ _ _ _ _ _ => .inl rfl }

theorem timerStep_inv (h : WInvX x w) (w' : World) {ts : Dict Timer} {nt n : Nat} {l : List Obs}
    (hw : w' = { w with timers := ts, nextTimer := nt, now := n, log := l })
    (hP : ∀ t k, (∀ q r, k ≠ .onDisc q r) → (Pending w' t k ↔ Pending w t k))
    (htf : ∀ t tm, w'.timers.get? t = some tm → t < w'.nextTimer) : WInvX x w' := by
  subst hw
  exact .of_parts h.store (h.alarms.congr fun t p rid => hP t _ nofun) (h.net.congr fun t k _ hk => hP t k hk) h.idCounter htf
    h.profileOk

structure LostPost (w w' : World) (p : Nat) (ppr : Proto) : Prop where
  proto : ∃ pr', w'.protos.get? p = some pr' ∧ pr'.state = .idle ∧ pr'.lost = true ∧ pr'.addr = ppr.addr
  /-- C11: a clean session leaves no request of the address behind, in no container -/
  clean : ppr.cleanStart = true → ∀ y ∈ w'.ents, y.addr ≠ ppr.addr
  /-- C12: a persistent session keeps every publish of the address (held back, awaiting PUBACK/PUBREC, awaiting PUBCOMP)
      and drops exactly the SUBSCRIBE/UNSUBSCRIBE requests; other addresses are untouched -/
  persistent : ppr.cleanStart = false →
    ∀ y, y ∈ w'.ents ↔ y ∈ w.ents ∧ ¬ (y.addr = ppr.addr ∧ (y.box = .sub ∨ y.box = .unsub))
  req : ∀ rid, (w'.req rid).dfd = (w.req rid).dfd ∧ (w'.req rid).msgId = (w.req rid).msgId ∧
    (w'.req rid).encoded = (w.req rid).encoded ∧ (w'.req rid).kind = (w.req rid).kind
  quiet : ∀ e ∈ w'.ents, e.addr = ppr.addr → e.box ≠ .queue → (w'.req e.rid).alarm = none

theorem connectionLost_owned {w : World} (h : WInv w) (p : Nat) (ppr : Proto) (hpp : w.protos.get? p = some ppr)
    (hnl : ppr.lost = false) (reason : Err) :
    (connectionLost p reason w).2 = none ∧ WInv (connectionLost p reason w).1 ∧ LostPost w (connectionLost p reason w).1 p ppr ∧
    KQ w (connectionLost p reason w).1 ∧ (∀ y ∈ (connectionLost p reason w).1.ents, y ∈ w.ents) ∧
    (connectionLost p reason w).1.connReqs = w.connReqs := by
  show Step.Returns _ w fun w' => WInv w' ∧ LostPost w w' p ppr ∧ KQ w w' ∧ (∀ y ∈ w'.ents, y ∈ w.ents) ∧ w'.connReqs = w.connReqs
  simp only [connectionLost, Step.returns_read, getD_of_get? hpp]
  refine .seq (stopLoop_inv (WInvX.weaken (x := some p) h) hpp) fun w1 ⟨i1, hpp1, r1, c1⟩ => ?_
  refine .seq (stopAlarm_inv (ppr := { ppr with pingTimer := none }) i1 hpp1) fun w2 ⟨i2, hpp2, r2, c2⟩ => ?_
  refine .seq (doConnectionLost_inv i2 hpp2 hnl reason) fun w3 ⟨w', d, r, i3, hq3, hns3, hcl3, hps3⟩ => ?_
  have hpp3 : w3.protos.get? p = some { ppr with pingTimer := none, pingAlarm := none } := by
    rw [r.protos, d.protos]
    exact hpp2
  have c12 := c1.trans c2
  have hreq : ∀ rid, w3.req rid = w'.req rid := req_of_reqs r.reqs
  have hpp4 : (lostW w3 p { ppr with pingTimer := none, pingAlarm := none }).protos.get? p =
      some { ppr with pingTimer := none, pingAlarm := none, state := .idle, lost := true } := by
    simp [lostW, Dict.get?_set]
  have hW : WInv (lostW w3 p { ppr with pingTimer := none, pingAlarm := none }) :=
    (lost_inv i3 hpp3 rfl rfl hq3).close (fun pr hpr hl => by cases hpp4.symm.trans hpr; cases hl) fun pr hpr e he hb hea => by
      cases hpp4.symm.trans hpr
      exact hb.elim (absurd · (hns3 e he hea).1) (absurd · (hns3 e he hea).2)
  -- the worlds from here on have the entries and request objects of `w3`
  have hpost : ∀ wX : World, wX.ents = w3.ents → wX.reqs = w3.reqs → wX.connReqs = w3.connReqs → wX.fired = w3.fired →
      wX.nextDfd = w3.nextDfd →
      wX.protos.get? p = some { ppr with pingTimer := none, pingAlarm := none, state := .idle, lost := true } →
      LostPost w wX p ppr ∧ KQ w wX ∧ (∀ y ∈ wX.ents, y ∈ w.ents) ∧ wX.connReqs = w.connReqs := by
    intro wX hxe hxr hxc hxf hxn hxp
    have hx : CoreSame w3 wX := ⟨hxe, hxf, hxc, hxn, fun r => by rw [req_of_reqs hxr]; exact ⟨rfl, rfl, rfl⟩⟩
    refine ⟨⟨⟨_, hxp, rfl, rfl, rfl⟩, fun hc y hy => hcl3 hc y (hxe ▸ hy), fun hc y => by rw [hxe, hps3 hc y, c2.ents, c1.ents], fun rid => ?_,
      fun e he hea hq => by rw [req_of_reqs hxr]; exact hq3 e (hxe ▸ he) hea hq⟩,
      ((c12.kq.trans d.coreSame.kq).trans r.kq).trans hx.kq, fun y hy => ?_, ?_⟩
    · rw [req_of_reqs hxr, hreq, ← req_of_reqs r1, ← req_of_reqs r2]
      exact ⟨(d.req rid).1, (d.req rid).2.1, (d.same rid).1, (d.same rid).2.1⟩
    · rw [← c12.ents, ← d.ents]
      exact r.sub y (hxe ▸ hy)
    · rw [hxc, r.connReqs, d.connReqs, c12.connReqs]
  refine .seq_eq (w1 := lostW w3 p _) (setProto_eq hpp3) (.read ?_)
  rw [getD_of_get? hpp4]
  split
  · refine .of_eq rfl ⟨?_, hpost _ rfl rfl rfl rfl rfl hpp4⟩
    exact timerStep_inv hW _ rfl (fun t k hk => add_other hW _ _ rfl t k (hk p reason)) (fresh_add hW.timerFresh _ rfl rfl)
  · exact .of_eq rfl ⟨hW, hpost _ rfl rfl rfl rfl rfl hpp4⟩

theorem connectionLost_full {w : World} (h : WInv w) (p : Nat) (ppr : Proto) (hpp : w.protos.get? p = some ppr)
    (hnl : ppr.lost = false) (reason : Err) :
    (connectionLost p reason w).2 = none ∧ WInv (connectionLost p reason w).1 ∧ LostPost w (connectionLost p reason w).1 p ppr :=
  have h4 := connectionLost_owned h p ppr hpp hnl reason
  ⟨h4.1, h4.2.1, h4.2.2.1⟩

theorem connectionLost_inv {w : World} (h : WInv w) (p : Nat) (ppr : Proto) (hpp : w.protos.get? p = some ppr)
    (hnl : ppr.lost = false) (reason : Err) :
    (connectionLost p reason w).2 = none ∧ WInv (connectionLost p reason w).1 :=
  ⟨(connectionLost_full h p ppr hpp hnl reason).1, (connectionLost_full h p ppr hpp hnl reason).2.1⟩

end Mqtt
