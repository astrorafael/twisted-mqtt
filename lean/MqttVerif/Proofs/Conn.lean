import MqttVerif.Proofs.Session3
/-
  The handshake and keepalive transitions of one protocol object: each restates the few clauses of `ProtoLocal` (ProtoT.lean) that it
  changes and hands the rest on (`ProtoLocal.set`, `.step`, `.timer`).
-/
namespace Mqtt

theorem setProto_eq {w : World} {p : Nat} {pr : Proto} {f : Proto → Proto} (hpp : w.protos.get? p = some pr) :
    setProto p f w = ({ w with protos := w.protos.set p (f pr) }, none) := by
  rw [setProto_apply, getD_of_get? hpp]

variable {x : Option Nat} {w : World} {p : Nat} {ppr : Proto}

/-! ### CONNACK: the handshake timer is cancelled and the state changes -/

def acceptW (w : World) (p : Nat) (ppr : Proto) (t : Nat) (tm : Timer) (st : PState) : World :=
  { w with timers := w.timers.set t { tm with status := .cancelled }, protos := w.protos.set p { ppr with state := st } }

theorem accept_inv (h : WInvX x w) (hpp : w.protos.get? p = some ppr) (hs : ppr.state = .connecting) (st : PState)
    (hst : st = .idle ∨ (st = .connected ∧ x = some p)) (cr : Nat) (c : ConnReq) (hcq : ppr.connReq = some cr)
    (hc : w.connReqs.get? cr = some c) (d : Nat) (hd : c.dfd = some d) :
    ∃ tm, w.timers.get? c.alarm = some tm ∧ tm.status = .pending ∧ WInvX x (acceptW w p ppr c.alarm tm st) := by
  have o := ProtoLocal.of_inv h hpp
  obtain ⟨cr', c', i1, i2, ip, i3⟩ := o.connecting hs
  cases hcq.symm.trans i1
  cases hc.symm.trans i2
  obtain ⟨tm, htm, hts, hk⟩ := (i3 d hd).2
  have hnl := h.live_of_state hpp (by simp [hs])
  have hpt := h.noLoop_of_state hpp (by simp [hs])
  have hkp := fun t' k => pending_dead (w' := acceptW w p ppr c.alarm tm st) rfl (by simp) t' k
  have hko := fun t' k hk' => kill_other (w' := acceptW w p ppr c.alarm tm st) rfl (by simp) ⟨tm, htm, hts, hk⟩ t' k hk'
  have hns : st ≠ .connecting := by rcases hst with rfl | ⟨rfl, _⟩ <;> simp
  refine ⟨tm, htm, hts, ProtoLocal.step h hpp _ rfl (fun _ _ _ => hko _ _ (by simp)) (fun t' _ hp' => ((hkp t' _).mp hp').1) ?_
    (fun _ _ _ => hko _ _ (by simp)) (fun _ _ _ => hko _ _ (by simp)) (fresh_set h.timerFresh htm _ rfl rfl) rfl id
    { o.congr (fun _ => hko _ _ (by simp)) (fun _ => hko _ _ (by simp)) (fun _ _ => Iff.rfl) with
      dead := fun hl => nomatch hl.symm.trans hnl
      connected := fun hs' hx _ => hst.elim (fun e => by rw [e] at hs'; cases hs') fun e => absurd e.2.symm hx
      pingTimer := fun l hl => nomatch hpt.symm.trans hl
      connecting := fun hs' => absurd hs' hns
      connackOwned := ?_ }⟩
  · intro t' cr' c' hc' hpr' hp'
    by_cases hcc : cr' = cr
    · subst hcc
      cases hc.symm.trans hc'
      exact absurd ip hpr'
    · exact (hko _ _ (by simp [hcc])).mpr hp'
  · intro t' cr' c' hp' hc' hown
    obtain ⟨hp1, hne⟩ := (hkp t' _).mp hp'
    rcases o.connackOwned t' cr' c' hp1 hc' hown with a | ⟨_, a⟩
    · exact nomatch a.symm.trans hnl
    · cases hcq.symm.trans a
      cases hc.symm.trans hc'
      obtain ⟨c2, _, a1, _, _, a4, _⟩ := h.connackOwned t' cr hp1
      cases hc.symm.trans a1
      exact absurd a4.symm hne

/-! ### keepalive -/

/-- the LoopingCall is created (CONNACK with a keepalive) -/
def loopOnW (w : World) (p : Nat) (ppr : Proto) (ka : Nat) : World :=
  { w with protos := w.protos.set p { ppr with pingKeepalive := some ka, pingTimer := some ⟨true, ka, none⟩ } }

theorem loopOn_inv (h : WInvX x w) (hpp : w.protos.get? p = some ppr) (hs : ppr.state = .connected) (hpt : ppr.pingTimer = none)
    (ka : Nat) : WInvX x (loopOnW w p ppr ka) :=
  have o := ProtoLocal.of_inv h hpp
  have hnl := h.live_of_state hpp (by simp [hs])
  ProtoLocal.set h hpp rfl id
    { o with
      dead := fun hl => nomatch hl.symm.trans hnl
      pingTimer := fun l hl => by
        cases hl
        exact ⟨rfl, hs, by simp, fun t ht => nomatch ht⟩
      pingLoopOwned := fun t ht => by
        obtain ⟨l, a, _⟩ := o.pingLoopOwned t ht
        cases hpt.symm.trans a }

/-- `doPingRequest` arms the PINGRESP alarm -/
def pingArmW (w : World) (p : Nat) (ppr : Proto) (due : Nat) (log' : List Obs) : World :=
  { w with timers := w.timers.set w.nextTimer ⟨due, .pingAlarm p, .pending⟩, nextTimer := w.nextTimer + 1,
           protos := w.protos.set p { ppr with pingAlarm := some w.nextTimer }, log := log' }

theorem pingArm_inv (h : WInvX x w) (hpp : w.protos.get? p = some ppr) (hpa : ppr.pingAlarm = none) (hnl : ppr.lost = false)
    (due : Nat) (log' : List Obs) : WInvX x (pingArmW w p ppr due log') :=
  have o := ProtoLocal.of_inv h hpp
  have hao := add_other h due (.pingAlarm p) (w' := pingArmW w p ppr due log') rfl
  have hap := fun t => pending_add h.timerFresh (w' := pingArmW w p ppr due log') rfl t (.pingAlarm p)
  ProtoLocal.timer h hpp _ rfl (Or.inl rfl) hao (fresh_add h.timerFresh _ rfl rfl) rfl id
    { o.congr (fun _ => Iff.rfl) (fun _ => hao _ _ (by simp)) (fun _ _ => Iff.rfl) with
      dead := fun hl => nomatch hl.symm.trans hnl
      pingAlarm := fun t ht => by
        cases ht
        exact (hap _).mpr (Or.inr ⟨rfl, rfl⟩)
      pingAlarmOwned := fun t ht => by
        rcases (hap t).mp ht with a | ⟨rfl, _⟩
        · cases hpa.symm.trans (o.pingAlarmOwned t a)
        · rfl }

def loopSchedW (w : World) (p : Nat) (ppr : Proto) (l : Loop) (due : Nat) : World :=
  { w with timers := w.timers.set w.nextTimer ⟨due, .pingLoop p, .pending⟩, nextTimer := w.nextTimer + 1,
           protos := w.protos.set p { ppr with pingTimer := some { l with call := some w.nextTimer } } }

theorem loopSched_inv (h : WInvX x w) (hpp : w.protos.get? p = some ppr) (l : Loop) (hl : ppr.pingTimer = some l)
    (hcall : l.call = none) (due : Nat) : WInvX x (loopSchedW w p ppr l due) :=
  have o := ProtoLocal.of_inv h hpp
  have ⟨b1, b2, b3, _⟩ := o.pingTimer l hl
  have hnl := h.live_of_state hpp (by simp [b2])
  have hao := add_other h due (.pingLoop p) (w' := loopSchedW w p ppr l due) rfl
  have hap := fun t => pending_add h.timerFresh (w' := loopSchedW w p ppr l due) rfl t (.pingLoop p)
  ProtoLocal.timer h hpp _ rfl (Or.inr rfl) hao (fresh_add h.timerFresh _ rfl rfl) rfl id
    { o.congr (fun _ => hao _ _ (by simp)) (fun _ => Iff.rfl) (fun _ _ => Iff.rfl) with
      dead := fun hl' => nomatch hl'.symm.trans hnl
      pingTimer := fun l' hl' => by
        cases hl'
        refine ⟨b1, b2, b3, fun t ht => ?_⟩
        cases ht
        exact (hap _).mpr (Or.inr ⟨rfl, rfl⟩)
      pingLoopOwned := fun t ht => by
        rcases (hap t).mp ht with a | ⟨rfl, _⟩
        · obtain ⟨l', a1, a2⟩ := o.pingLoopOwned t a
          cases hl.symm.trans a1
          cases hcall.symm.trans a2
        · exact ⟨_, rfl, rfl⟩ }

def loopKillW (w : World) (p : Nat) (ppr : Proto) (t : Nat) (tm : Timer) (st : TStatus) (pt : Option Loop) (now' : Nat) : World :=
  { w with timers := w.timers.set t { tm with status := st }, protos := w.protos.set p { ppr with pingTimer := pt }, now := now' }

/-- the scheduled run of the LoopingCall has fired (`call := none`) or the loop is stopped and dropped (`pingTimer := none`) -/
theorem loopKill_inv (h : WInvX x w) (hpp : w.protos.get? p = some ppr) (l : Loop) (hl : ppr.pingTimer = some l) (t : Nat)
    (hcall : l.call = some t) (st : TStatus) (hst : st ≠ .pending) (pt : Option Loop)
    (hptv : pt = none ∨ pt = ppr.pingTimer.map fun l => { l with call := none }) (now' : Nat) :
    ∃ tm, w.timers.get? t = some tm ∧ tm.status = .pending ∧ WInvX x (loopKillW w p ppr t tm st pt now') := by
  have o := ProtoLocal.of_inv h hpp
  obtain ⟨b1, b2, b3, b4⟩ := o.pingTimer l hl
  obtain ⟨tm, htm, hts, hk⟩ := b4 t hcall
  have hnl := h.live_of_state hpp (by simp [b2])
  have hko := kill_other (w' := loopKillW w p ppr t tm st pt now') rfl hst ⟨tm, htm, hts, hk⟩
  refine ⟨tm, htm, hts, ProtoLocal.timer h hpp _ rfl (Or.inr rfl) hko (fresh_set h.timerFresh htm _ rfl rfl) rfl id
    { o.congr (fun _ => hko _ _ (by simp)) (fun _ => Iff.rfl) (fun _ _ => Iff.rfl) with
      dead := fun hl' => nomatch hl'.symm.trans hnl
      pingTimer := fun l' hl' => by
        rcases hptv with rfl | rfl
        · cases hl'
        · change ppr.pingTimer.map _ = some l' at hl'
          rw [hl] at hl'
          cases hl'
          exact ⟨b1, b2, b3, fun t' ht' => nomatch ht'⟩
      pingLoopOwned := fun t' ht' => by
        obtain ⟨a, hne⟩ := (pending_dead rfl hst t' _).mp ht'
        obtain ⟨l', a1, a2⟩ := o.pingLoopOwned t' a
        cases hl.symm.trans a1
        cases hcall.symm.trans a2
        exact absurd rfl hne }⟩

def loopDropW (w : World) (p : Nat) (ppr : Proto) : World :=
  { w with protos := w.protos.set p { ppr with pingTimer := none } }

theorem loopDrop_inv (h : WInvX x w) (hpp : w.protos.get? p = some ppr) (hidle : ∀ l, ppr.pingTimer = some l → l.call = none) :
    WInvX x (loopDropW w p ppr) :=
  have o := ProtoLocal.of_inv h hpp
  ProtoLocal.set h hpp rfl id
    { o with
      dead := fun hl => ⟨(o.dead hl).1, (o.dead hl).2.1, rfl, (o.dead hl).2.2.2⟩
      pingTimer := fun l hl => nomatch hl
      pingLoopOwned := fun t ht => by
        obtain ⟨l, a1, a2⟩ := o.pingLoopOwned t ht
        cases (hidle l a1).symm.trans a2 }

def connDoneW (w : World) (p : Nat) (ppr : Proto) (d : Nat) (o : Obs) : World :=
  { w with fired := d :: w.fired, log := w.log ++ [o], protos := w.protos.set p { ppr with connReq := none } }

theorem connDone_inv (h : WInvX x w) (hpp : w.protos.get? p = some ppr) (hs : ppr.state ≠ .connecting) (cr : Nat) (c : ConnReq)
    (hcq : ppr.connReq = some cr) (hc : w.connReqs.get? cr = some c) (d : Nat) (hd : c.dfd = some d) (hnl : ppr.lost = false)
    (oc : Outcome) :
    Step.Returns (fireDfd d oc ;; setProto p fun pr => { pr with connReq := none }) w fun w' =>
      w' = connDoneW w p ppr d (.fired d oc) ∧ WInvX x w' := by
  have o := ProtoLocal.of_inv h hpp
  obtain ⟨hown, hnf⟩ := o.connReqLive cr c hcq hc
  have hd1 := h.connReq cr c d hc hd (hnf d hd)
  have h1 : WInvX x { w with protos := w.protos.set p { ppr with connReq := none } } :=
    ProtoLocal.set h hpp rfl id
      { o with
        connecting := fun hs' => absurd hs' hs
        connackOwned := fun t cr' c' a hc' hown' => (o.connackOwned t cr' c' a hc' hown').imp id fun a6 => absurd a6.1 hs
        connReqLive := fun _ _ hcq' => nomatch hcq'
        connReqRef := fun _ hcq' => nomatch hcq' }
  refine .seq_eq (fireDfd_unfired w d oc (hnf d hd)) (.of_eq (setProto_eq hpp) ⟨rfl, fireD_inv h1 hd1.1 hd1.2 ?_ ?_ _⟩)
  · intro t cr' c' hp' hc' hcd
    cases h.connReqInj cr cr' c c' d hc hc' hd hcd
    cases hc.symm.trans hc'
    rcases o.connackOwned t cr c hp' hc hown with a | ⟨a, _⟩
    · exact nomatch a.symm.trans hnl
    · exact hs a
  · intro q qr cr' c' hq hcq' hc' hcd
    cases h.connReqInj cr cr' c c' d hc hc' hd hcd
    cases hc.symm.trans hc'
    rcases Dict.get?_set_cases hq with ⟨-, rfl⟩ | ⟨hqp, hq⟩
    · cases hcq'
    · exact hqp ((h.connReqLive q qr cr c hq hcq' hc).1.symm.trans hown)

end Mqtt
