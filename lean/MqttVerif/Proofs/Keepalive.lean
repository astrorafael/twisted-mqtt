import MqttVerif.Proofs.Timers
/-
  C15, periodicity.  `KAInv` (`KAInvX none`): in every state between operations
    * the ids on the timer table are below `nextTimer` (`tf`) and the call a loop object holds is on the table (`callExists`),
    * a keepalive loop that is running has its next run scheduled (`armed`),
    * that run is due at most `interval` seconds from now (`loopDue`): it was scheduled `interval` seconds ahead when the previous run
      (or the CONNACK) happened, the clock only moves forward, and a timer's due time is never changed,
    * the loop's period is the keepalive of the accepted connect() (`period`).
  Purely structural: no `WInv`, no `Env`.  Two places break `armed` for one protocol for a moment and restore it at once -- CONNACK creates
  the loop object and runs it, the loop timer clears `call` and runs the body: `KAInvX (some p)` suspends the clause for `p`, `loopRun p`
  reinstates it.  `KAS x s`: `s` keeps `KAInvX x`.

  Most of the model has nothing to do with any of this: `Calm` is the relation between two worlds that says so, the first part of the
  file shows which handlers are calm, and an invariant kept by calm steps is kept by every operation once it is kept by the few handlers
  that are not (`processPacket_of_calm`, `fireTimer_of_calm`, `step_of_calm`).  `Deadline.lean` uses the same three.
-/
namespace Mqtt

theorem proto_setProto_self (w : World) (p : Nat) (g : Proto → Proto) : (setProto p g w).1.proto p = g (w.proto p) := by
  simp [setProto, Step.mod, World.proto, Dict.get?_set]
theorem proto_setProto_other (w : World) (q p : Nat) (g : Proto → Proto) (h : q ≠ p) : (setProto q g w).1.proto p = w.proto p := by
  simp [setProto, Step.mod, World.proto, Dict.get?_set, h]

theorem protos_setProto (w : World) (q : Nat) (g : Proto → Proto) (p : Nat) (pr : Proto) (hp : (setProto q g w).1.protos.get? p = some pr) :
    (p ≠ q ∧ w.protos.get? p = some pr) ∨ (p = q ∧ pr = g (w.proto q)) := by
  simp only [setProto, Step.mod, Dict.get?_set] at hp
  split at hp
  · rename_i he
    cases hp
    exact Or.inr ⟨he.symm, rfl⟩
  · rename_i he
    exact Or.inl ⟨fun h => he h.symm, hp⟩

/-- what the keepalive bookkeeping reads of a protocol object -/
def Proto.kaView (pr : Proto) : Option Loop × Option Nat × Option Nat × PState := (pr.pingTimer, pr.pingKeepalive, pr.pingAlarm, pr.state)

structure Calm (w w' : World) : Prop where
  timers : TF w → TKeep w w'
  now : w.now ≤ w'.now
  kaView : ∀ p, (w'.proto p).kaView = (w.proto p).kaView

theorem Calm.refl (w : World) : Calm w w := ⟨TKeep.refl, Nat.le_refl _, fun _ => rfl⟩
theorem Calm.trans {a b c : World} (x : Calm a b) (y : Calm b c) : Calm a c :=
  ⟨fun h => (x.timers h).trans (y.timers (x.timers h).tf), Nat.le_trans x.now y.now, fun p => (y.kaView p).trans (x.kaView p)⟩

theorem calm_closed : Step.Closed (Step.Rel Calm) := Step.Rel.closed Calm.refl Calm.trans

theorem Calm.of_protos {w w' : World} (hp : w'.protos = w.protos) (ht : TF w → TKeep w w') (hn : w.now ≤ w'.now) : Calm w w' :=
  ⟨ht, hn, fun p => by simp only [World.proto, hp]⟩

theorem Sent.calm {p rid : Nat} {w w' : World} (s : Sent p rid w w') : Calm w w' :=
  .of_protos s.protos s.tkeep (Nat.le_of_eq s.now.symm)

theorem calm_mod {f : World → World}
    (hf : ∀ w, (f w).protos = w.protos ∧ (f w).timers = w.timers ∧ (f w).nextTimer = w.nextTimer ∧ (f w).now = w.now) :
    Step.Rel Calm (Step.mod f) := fun w =>
  .of_protos (hf w).1 (fun h => tkeep_same h (hf w).2.1 (hf w).2.2.1) (Nat.le_of_eq (hf w).2.2.2.symm)
theorem calm_emit (o : Obs) : Step.Rel Calm (emit o) := calm_mod fun _ => ⟨rfl, rfl, rfl, rfl⟩
theorem calm_setEnts (f : List Ent → List Ent) : Step.Rel Calm (setEnts f) := calm_mod fun _ => ⟨rfl, rfl, rfl, rfl⟩
theorem calm_setProto (q : Nat) (g : Proto → Proto) (hg : ∀ pr, (g pr).kaView = pr.kaView) : Step.Rel Calm (setProto q g) := fun w =>
  ⟨fun h => tkeep_same h rfl rfl, Nat.le_refl _, fun p => by
    by_cases e : q = p
    · rw [← e, proto_setProto_self, hg]
    · rw [proto_setProto_other w q p g e]⟩
theorem calm_callLater (d : Rat) (k : TKind) {c : Nat → Step} (hc : ∀ t, Step.Rel Calm (c t)) : Step.Rel Calm (callLater d k c) :=
  calm_closed.callLater d k (fun w => .of_protos rfl (fun h => tkeep_callLater w h d k) (Nat.le_refl _)) hc
theorem calm_newDfd {c : Nat → Step} (hc : ∀ t, Step.Rel Calm (c t)) : Step.Rel Calm (newDfd c) :=
  calm_closed.newDfd (fun _ => calm_mod fun _ => ⟨rfl, rfl, rfl, rfl⟩) hc
theorem calm_makeId {c : Nat → Step} (hc : ∀ t, Step.Rel Calm (c t)) : Step.Rel Calm (makeId c) :=
  calm_closed.makeId (fun _ => calm_mod fun _ => ⟨rfl, rfl, rfl, rfl⟩) hc
theorem calm_cancelTimer (t : Nat) : Step.Rel Calm (cancelTimer t) := by
  intro w
  rcases cancelTimer_cases t w with e | ⟨tm, ht, _, e⟩ <;> rw [e]
  · exact .refl w
  · exact .of_protos rfl (fun h => tkeep_status w h t tm ht .cancelled) (Nat.le_refl _)
theorem calm_fireDfd (d : Nat) (o : Outcome) : Step.Rel Calm (fireDfd d o) :=
  calm_closed.fireDfd d o (calm_mod fun _ => ⟨rfl, rfl, rfl, rfl⟩) (calm_emit _)
theorem calm_refill (p : Nat) : Step.Rel Calm (refill p) :=
  refill_of_sent Calm.refl Calm.trans p (fun w g => calm_setEnts g w) fun _ _ _ => Sent.calm
theorem calm_syncSession (p : Nat) : Step.Rel Calm (syncSession p) :=
  syncSession_of_sent Calm.refl Calm.trans p fun _ _ _ => Sent.calm

theorem calm_purgeSession (p : Nat) (r : Err) : Step.Rel Calm (purgeSession p r) :=
  calm_closed.purgeSession r (fun _ _ _ => calm_setEnts _) fun _ => calm_fireDfd _ _
theorem calm_mqttConnectionMade (p : Nat) : Step.Rel Calm (mqttConnectionMade p) :=
  calm_closed.mqttConnectionMade (calm_purgeSession p _) (calm_syncSession p) (calm_refill p) (calm_emit _)
theorem calm_doConnectionLost (p : Nat) (r : Err) : Step.Rel Calm (doConnectionLost p r) :=
  calm_closed.doConnectionLost r calm_cancelTimer (fun _ => calm_mod fun _ => ⟨rfl, rfl, rfl, rfl⟩)
    (fun _ _ _ => calm_setEnts _) (fun _ => calm_setEnts _) fun _ => calm_fireDfd _ _
theorem calm_registerSubUnsub (p : Nat) (s : Bool) (i : Nat) (bs : Bytes) : Step.Rel Calm (registerSubUnsub p s i bs) :=
  calm_closed.registerSubUnsub s i bs calm_newDfd (fun _ _ _ _ => calm_mod fun _ => ⟨rfl, rfl, rfl, rfl⟩)
    (fun _ _ _ => calm_setEnts _) (fun rid w => (retrySubUnsubW_sent p rid false s w).calm) fun _ => calm_emit _

section of_calm
variable {I : World → Prop} (hI : ∀ {w w'}, Calm w w' → I w → I w')
include hI

theorem keeps_of_calm {s : Step} (hs : Step.Rel Calm s) : Step.Tr I I s := fun w h => hI (hs w) h

/-- `hconnack` keeps the guard of the state object, which says in which state the CONNACK is handled -/
theorem processPacket_of_calm (p : Nat) (pkt : Bytes)
    (hconnack : ∀ s rc, Step.Tr I I (Step.read fun w => if allowed w p 6 then handleCONNACK p s rc else Step.ok))
    (hpingresp : Step.Tr I I (handlePINGRESP p)) : Step.Tr I I (processPacket p pkt) := by
  have c : Step.Closed (Step.Tr I I) := Step.Closed.preserving I
  have hcalm : ∀ n s, Step.Rel Calm s → Step.Tr I I (Step.read fun w => if allowed w p n = true then s else Step.ok) :=
    fun n s hs => keeps_of_calm hI (calm_closed.guarded p n hs)
  have hack : ∀ b m v, Step.Rel Calm (handleSubUnsubAck p b m v) := fun b m v =>
    calm_closed.handleSubUnsubAck b m v (fun _ _ => calm_setEnts _) calm_cancelTimer fun _ => calm_fireDfd _ _
  have hdel : ∀ m, Step.Rel Calm (deliver p m) := fun m => calm_closed.deliver m (calm_emit _)
  rcases processPacket_eq p pkt with ⟨_, h⟩ | h | ⟨_, _, _, h⟩ | ⟨_, h⟩ | ⟨_, _, _, h⟩ | ⟨_, _, _, h⟩ | ⟨_, _, _, h⟩ | ⟨_, _, _, h⟩ | ⟨_, _, _, h⟩ |
    ⟨_, _, _, h⟩ | ⟨_, _, _, h⟩ <;> rw [h]
  · exact c.raise _
  · exact keeps_of_calm hI (calm_emit _)
  · exact hconnack _ _
  · exact c.guarded p _ hpingresp
  · exact hcalm _ _ (hack _ _ _)
  · exact hcalm _ _ (hack _ _ _)
  · exact hcalm _ _ (calm_closed.handlePUBLISH _ (hdel _) (fun _ _ => calm_emit _) (fun _ _ => calm_emit _)
      (calm_mod fun _ => ⟨rfl, rfl, rfl, rfl⟩))
  · exact hcalm _ _ (calm_closed.handlePUBACK _ calm_cancelTimer (fun _ _ => calm_fireDfd _ _) (fun _ => calm_setEnts _) (calm_refill p))
  · exact hcalm _ _ (calm_closed.handlePUBREC _ calm_cancelTimer (fun _ => calm_setEnts _)
      (fun _ _ _ => calm_mod fun _ => ⟨rfl, rfl, rfl, rfl⟩) (fun _ _ => calm_setEnts _) fun rid w => (retryReleaseW_sent p rid false w).calm)
  · exact hcalm _ _ (calm_closed.handlePUBREL _ (calm_mod fun _ => ⟨rfl, rfl, rfl, rfl⟩) hdel fun _ _ => calm_emit _)
  · exact hcalm _ _ (calm_closed.handlePUBCOMP _ calm_cancelTimer (fun _ _ => calm_fireDfd _ _) (fun _ _ => calm_setEnts _)
      (calm_refill p))

theorem fireTimer_of_calm (t : Nat) (hloop : ∀ q, Step.Tr I I (runTimer (.pingLoop q))) (halarm : ∀ q, Step.Tr I I (runTimer (.pingAlarm q))) :
    Step.Tr I I (fireTimer t) := by
  have c : Step.Closed (Step.Tr I I) := Step.Closed.preserving I
  have hrun : ∀ k, Step.Tr I I (runTimer k) := by
    intro k
    cases k with
    | connack cr =>
      exact c.runTimer_connack cr (fun _ => keeps_of_calm hI (calm_fireDfd _ _))
        (fun _ => keeps_of_calm hI (calm_mod fun _ => ⟨rfl, rfl, rfl, rfl⟩)) fun _ => keeps_of_calm hI (calm_emit _)
    | pingLoop q => exact hloop q
    | pingAlarm q => exact halarm q
    | retry q rid =>
      exact c.runTimer_retry q rid (keeps_of_calm hI fun w => (retryPublishW_sent q rid true w).calm)
        (keeps_of_calm hI fun w => (retryReleaseW_sent q rid true w).calm)
        fun s => keeps_of_calm hI fun w => (retrySubUnsubW_sent q rid true s w).calm
    | onDisc q r => exact keeps_of_calm hI (calm_emit _)
  intro w h
  refine fireTimer_at (Q := fun r => I r.1) t w (keeps_of_calm hI (calm_emit _) w h) fun tm ht _ => ?_
  -- `tkeep_status` is about the world with the old clock; `TKeep` does not look at the clock
  refine hrun tm.kind _ (hI (w := w) (.of_protos rfl (fun tf => ?_) (Nat.le_max_left _ _)) h)
  have k := tkeep_status w tf t tm ht .called
  exact ⟨k.tf, k.keep⟩

theorem step_of_calm (hnew : ∀ q a, Step.Tr I I (setProto q fun _ => { addr := a })) (hconnect : ∀ p a, Step.Tr I I (apiConnect p a))
    (hconnack : ∀ p s rc, Step.Tr I I (Step.read fun w => if allowed w p 6 then handleCONNACK p s rc else Step.ok))
    (hpingresp : ∀ p, Step.Tr I I (handlePINGRESP p)) (hlost : ∀ p r, Step.Tr I I (connectionLost p r))
    (hloop : ∀ q, Step.Tr I I (runTimer (.pingLoop q))) (halarm : ∀ q, Step.Tr I I (runTimer (.pingAlarm q)))
    (w : World) (h : I w) (op : Op) : I (step w op) := by
  have c : Step.Closed (Step.Tr I I) := Step.Closed.preserving I
  refine Step.Rel.step (R := fun w w' => I w → I w') ((?_ : Step.Tr I I op.handler) w)
    (fun w' e hr h => hI (w := w') (.of_protos rfl (fun tf => tkeep_same tf rfl rfl) (Nat.le_refl _)) (hr h)) h
  cases op with
  | build a =>
    exact fun w h => hI (w := (setProto w.nextProto (fun _ => { addr := a }) w).1) (w' := (buildProtocol a w).1)
      (.of_protos rfl (fun tf => tkeep_same tf rfl rfl) (Nat.le_refl _)) (hnew _ a w h)
  | sethandlers p m => exact keeps_of_calm hI (calm_setProto _ _ fun _ => rfl)
  | connect p a => exact hconnect p a
  | disconnect p => exact keeps_of_calm hI (calm_closed.apiDisconnect (calm_emit _) (calm_emit _) (calm_emit _))
  | publish p t pl q r =>
    exact keeps_of_calm hI (calm_closed.apiPublish t pl q r (fun _ => calm_emit _) (calm_emit _) (fun _ _ => calm_emit _) calm_makeId
      calm_newDfd fun _ _ _ _ _ => calm_closed.read fun _ => calm_closed.seq (calm_mod fun _ => ⟨rfl, rfl, rfl, rfl⟩)
        (calm_closed.seq (calm_setEnts _) (calm_refill p)))
  | subscribe p a q =>
    exact keeps_of_calm hI (calm_closed.apiSubscribe a q (fun _ => calm_emit _) calm_makeId (calm_registerSubUnsub p true))
  | unsubscribe p a =>
    exact keeps_of_calm hI (calm_closed.apiUnsubscribe a (fun _ => calm_emit _) calm_makeId (calm_registerSubUnsub p false))
  | setwin p n => exact keeps_of_calm hI (calm_closed.apiSetWindow n (fun _ _ => calm_setProto _ _ fun _ => rfl) (calm_emit _))
  | settimeout p n => exact keeps_of_calm hI (calm_closed.apiSetTimeout n (fun _ => calm_setProto _ _ fun _ => rfl) (calm_emit _))
  | setbw p b f => exact keeps_of_calm hI (calm_closed.apiSetBandwith b f (calm_setProto _ _ fun _ => rfl) (calm_emit _))
  | jit v => exact keeps_of_calm hI (calm_mod fun _ => ⟨rfl, rfl, rfl, rfl⟩)
  | setid v => exact keeps_of_calm hI (calm_mod fun _ => ⟨rfl, rfl, rfl, rfl⟩)
  | recv p d =>
    exact c.dataReceived d (fun pkt => processPacket_of_calm hI p pkt (hconnack p) (hpingresp p))
      (keeps_of_calm hI (calm_setProto _ _ fun _ => rfl)) fun _ => keeps_of_calm hI (calm_setProto _ _ fun _ => rfl)
  | lost p r => exact hlost p r
  | fire t => exact fireTimer_of_calm hI t hloop halarm

end of_calm

structure KAInvX (x : Option Nat) (w : World) : Prop where
  tf : TF w
  callExists : ∀ p pr l t, w.protos.get? p = some pr → pr.pingTimer = some l → l.call = some t → ∃ tm, w.timers.get? t = some tm
  loopDue : ∀ p pr l t tm, w.protos.get? p = some pr → pr.pingTimer = some l → l.call = some t → w.timers.get? t = some tm →
    tm.due ≤ w.now + ticks l.interval
  armed : ∀ p pr l, w.protos.get? p = some pr → some p ≠ x → pr.pingTimer = some l → l.running = true → l.call ≠ none
  period : ∀ p pr l k, w.protos.get? p = some pr → pr.pingTimer = some l → pr.pingKeepalive = some k → (l.interval : Nat) = k

abbrev KAInv (w : World) : Prop := KAInvX none w

theorem KAInvX.weaken {x : Option Nat} {w : World} (h : KAInv w) : KAInvX x w :=
  { h with armed := fun p pr l hp _ hl hr => h.armed p pr l hp (by simp) hl hr }

def KAS (x : Option Nat) (s : Step) : Prop := ∀ w, KAInvX x w → KAInvX x (s w).1

/-- what `KAInvX` asks of one protocol object; `armed` says whether the clause of that name is in force for it -/
def LoopInv (w : World) (armed : Prop) (pr : Proto) : Prop :=
  ∀ l, pr.pingTimer = some l →
    (∀ t, l.call = some t → ∃ tm, w.timers.get? t = some tm ∧ tm.due ≤ w.now + ticks l.interval) ∧
    (armed → l.running = true → l.call ≠ none) ∧ ∀ k, pr.pingKeepalive = some k → (l.interval : Nat) = k

theorem LoopInv.mono {w w' : World} {a : Prop} {pr : Proto} (h : LoopInv w a pr) (hk : TKeep w w') (hn : w.now ≤ w'.now) :
    LoopInv w' a pr := fun l hl =>
  ⟨fun t hc => by
    obtain ⟨tm, ht, hd⟩ := (h l hl).1 t hc
    obtain ⟨tm', ht', hd', _⟩ := hk.keep t tm ht
    exact ⟨tm', ht', by omega⟩, (h l hl).2⟩

theorem LoopInv.of_none {w : World} {a : Prop} {pr : Proto} (h : pr.pingTimer = none) : LoopInv w a pr := fun l hl => by
  rw [h] at hl
  cases hl

theorem LoopInv.imp {w : World} {a a' : Prop} {pr : Proto} (h : LoopInv w a pr) (ha : a' → a) : LoopInv w a' pr := fun l hl =>
  ⟨(h l hl).1, fun x => (h l hl).2.1 (ha x), (h l hl).2.2⟩

theorem LoopInv.congr {w : World} {a : Prop} {pr pr' : Proto} (h : LoopInv w a pr) (ht : pr'.pingTimer = pr.pingTimer)
    (hk : pr'.pingKeepalive = pr.pingKeepalive) : LoopInv w a pr' := fun l hl => by
  rw [hk]
  exact h l (ht ▸ hl)

theorem LoopInv.map {w : World} {a a' : Prop} {pr : Proto} (h : LoopInv w a pr) (f : Loop → Loop) (hi : ∀ l, (f l).interval = l.interval)
    (hc : ∀ l t, pr.pingTimer = some l → (f l).call = some t →
      l.call = some t ∨ ∃ tm, w.timers.get? t = some tm ∧ tm.due ≤ w.now + ticks l.interval)
    (ha : a' → ∀ l, pr.pingTimer = some l → (f l).running = true → (f l).call ≠ none) :
    LoopInv w a' { pr with pingTimer := pr.pingTimer.map f } := by
  intro l' hl'
  obtain ⟨l, hl, rfl⟩ := Option.map_eq_some_iff.mp hl'
  refine ⟨fun t ht => ?_, fun x => ha x l hl, fun k hk => (hi l).trans ((h l hl).2.2 k hk)⟩
  rw [hi]
  rcases hc l t hl ht with e | e
  · exact (h l hl).1 t e
  · exact e

variable {x : Option Nat}

theorem KAInvX.at {w : World} (h : KAInvX x w) {p : Nat} {pr : Proto} (hp : w.protos.get? p = some pr) : LoopInv w (some p ≠ x) pr :=
  fun l hl => ⟨fun t hc => (h.callExists p pr l t hp hl hc).imp fun tm ht => ⟨ht, h.loopDue p pr l t tm hp hl hc ht⟩,
    fun hx => h.armed p pr l hp hx hl, fun k => h.period p pr l k hp hl⟩

theorem KAInvX.of {w : World} (tf : TF w) (h : ∀ p pr, w.protos.get? p = some pr → LoopInv w (some p ≠ x) pr) : KAInvX x w :=
  ⟨tf, fun p pr l t hp hl hc => ((h p pr hp l hl).1 t hc).imp fun _ h => h.1,
    fun p pr l t tm hp hl hc ht => by
      obtain ⟨tm', ht', hd⟩ := (h p pr hp l hl).1 t hc
      rw [ht] at ht'
      cases ht'
      exact hd,
    fun p pr l hp hx hl => (h p pr hp l hl).2.1 hx, fun p pr l k hp hl => (h p pr hp l hl).2.2 k⟩

/-- `w.proto q` is a fresh object when there is none at `q`: that one has no loop -/
theorem KAInvX.proto {w : World} (h : KAInvX x w) (q : Nat) : LoopInv w (some q ≠ x) (w.proto q) := by
  cases hq : w.protos.get? q with
  | some pr => exact getD_of_get? hq ▸ h.at hq
  | none =>
    intro l hl
    simp only [World.proto, hq] at hl
    cases hl

theorem Calm.ka {w w' : World} (c : Calm w w') (h : KAInvX x w) : KAInvX x w' :=
  .of (c.timers h.tf).tf fun p pr hp => by
    have e := c.kaView p
    rw [getD_of_get? hp] at e
    exact ((h.proto p).congr (congrArg (·.1) e) (congrArg (·.2.1) e)).mono (c.timers h.tf) c.now

/-- `x'` may differ from `x`: the suspension of `q` may end with the write to `q` -/
theorem KAInvX.setProto {x' : Option Nat} {w : World} (h : KAInvX x w) (q : Nat) (g : Proto → Proto)
    (hx : ∀ p, p ≠ q → some p ≠ x' → some p ≠ x) (hq : LoopInv w (some q ≠ x') (g (w.proto q))) : KAInvX x' (setProto q g w).1 :=
  .of h.tf fun p pr hp => by
    rcases protos_setProto w q g p pr hp with ⟨hne, h0⟩ | ⟨rfl, rfl⟩
    · exact (h.at h0).imp (hx p hne)
    · exact hq

theorem kas_closed : Step.Closed (KAS x) := Step.Closed.preserving (KAInvX x)
theorem kas_calm {s : Step} (hs : Step.Rel Calm s) : KAS x s := keeps_of_calm Calm.ka hs
theorem kas_setProto (q : Nat) (g : Proto → Proto) (hg : ∀ w pr, LoopInv w (some q ≠ x) pr → LoopInv w (some q ≠ x) (g pr)) :
    KAS x (setProto q g) := fun w h => h.setProto q g (fun _ _ h => h) (hg w _ (h.proto q))

theorem kas_ping (p : Nat) : KAS x (ping p) :=
  kas_closed.ping (kas_closed.doPingRequest (kas_calm (calm_emit _)) fun _ =>
    kas_closed.callLater _ _ (kas_calm fun w => .of_protos rfl (fun h => tkeep_callLater w h _ _) (Nat.le_refl _)) fun _ =>
      kas_setProto _ _ fun _ _ h => h.congr rfl rfl)

theorem KAInvX.close {w : World} {p : Nat} (h : KAInvX (some p) w)
    (hp : ∀ l, (w.proto p).pingTimer = some l → l.running = true → l.call ≠ none) : KAInv w :=
  .of h.tf fun q pr hq => by
    by_cases e : q = p
    · subst e
      have hpr := getD_of_get? hq
      exact fun l hl => ⟨(h.at hq l hl).1, fun _ => hp l (hpr ▸ hl), (h.at hq l hl).2.2⟩
    · exact (h.at hq).imp fun _ c => e (Option.some.inj c)

/-- running the loop body reinstates `armed` for its protocol: the loop is re-armed `interval` seconds ahead, or it has stopped -/
theorem loopRun_close {w : World} {p : Nat} (h : KAInvX (some p) w) : KAInv (loopRun p w).1 := by
  have h1 := kas_ping p w h
  have hx : ∀ q, q ≠ p → some q ≠ none → some q ≠ some p := fun q e _ c => e (Option.some.inj c)
  unfold loopRun
  generalize ping p w = r at h1 ⊢
  rcases r with ⟨w1, _ | e⟩
  · dsimp only [Step.read]
    cases hl : (w1.proto p).pingTimer with
    | none => exact h1.close fun l hl' => nomatch hl.symm.trans hl'
    | some l =>
      dsimp only
      split
      · -- the new call is on the table, due `interval` from now
        have hc : Calm w1 (w1.callLater l.interval (.pingLoop p)).1 :=
          .of_protos rfl (fun h => tkeep_callLater w1 h _ _) (Nat.le_refl _)
        rw [callLater_apply]
        refine (hc.ka h1).setProto p _ hx ?_
        refine ((h1.proto p).mono (hc.timers h1.tf) hc.now).map _ (fun _ => rfl) (fun l0 t hl0 ht => Or.inr ?_) (fun _ _ _ _ => nofun)
        cases hl.symm.trans hl0
        cases ht
        exact ⟨_, by rw [callLater_timers, Dict.get?_set, if_pos rfl], Nat.le_refl _⟩
      · refine h1.close fun l' hl' hr => ?_
        cases hl.symm.trans hl'
        exact absurd hr ‹_›
  · refine h1.setProto p _ hx ?_
    exact (h1.proto p).map _ (fun _ => rfl) (fun _ _ _ ht => nomatch ht) fun _ _ _ hr => nomatch hr

theorem kas_restart {p : Nat} {g : Proto → Proto} (hg : ∀ w pr, LoopInv w (some p ≠ some p) pr → LoopInv w (some p ≠ some p) (g pr)) :
    KAS none (setProto p g ;; loopRun p) := fun w h =>
  loopRun_close (kas_setProto p g hg w h.weaken)

def Stopped (p : Nat) (w : World) : Prop := ∀ l, (w.proto p).pingTimer = some l → l.running = false

/-- `LoopingCall.stop()`: the loop object is marked as not running first, so nothing is demanded of its `call` when that is cleared.
    Hence the assertion between the writes is `KAInvX x ∧ Stopped p`, not `KAInvX x` alone. -/
theorem kas_loopStop (p : Nat) : KAS x (loopStop p) := by
  refine kas_closed.read fun w0 => ?_
  split
  · exact kas_closed.ok
  · rename_i l _
    split
    · exact kas_closed.raise _
    · refine Step.Tr.seq (B := fun w => KAInvX x w ∧ Stopped p w) (fun w h => ⟨?_, fun l' hl => ?_⟩) ?_ (fun _ h => h.1)
      · refine h.setProto p _ (fun _ _ h => h) ?_
        exact (h.proto p).map _ (fun _ => rfl) (fun _ _ _ ht => Or.inl ht) fun _ _ _ hr => nomatch hr
      · rw [proto_setProto_self] at hl
        obtain ⟨_, _, rfl⟩ := Option.map_eq_some_iff.mp hl
        rfl
      · cases l.call with
        | none => exact fun _ h => h.1
        | some tid =>
          refine Step.Tr.seq (B := fun w => KAInvX x w ∧ Stopped p w) (fun w h => ?_) (fun w h => ?_) (fun _ h => h.1)
          · have c := calm_cancelTimer tid w
            exact ⟨c.ka h.1, fun l' hl => h.2 l' ((congrArg (·.1) (c.kaView p)).symm.trans hl)⟩
          · refine h.1.setProto p _ (fun _ _ h => h) ?_
            exact (h.1.proto p).map _ (fun _ => rfl) (fun _ _ _ ht => nomatch ht) fun _ l' hl hr =>
              absurd ((h.2 l' hl).symm.trans hr) nofun

theorem kasx_loopStop (p : Nat) : KAS (some p) (loopStop p) := kas_loopStop p

theorem kas_handleCONNACK (p : Nat) (session : Bool) (rc : Nat) : KAS none (handleCONNACK p session rc) :=
  kas_closed.handleCONNACK_start session rc (fun _ => kas_calm (calm_cancelTimer _)) (fun _ => kas_setProto _ _ fun _ _ h => h.congr rfl rfl)
    (kas_calm (calm_mqttConnectionMade p))
    (fun k => kas_restart fun _ _ _ l hl => by
      cases hl
      exact ⟨fun _ ht => (nomatch ht), fun hx => absurd rfl hx, fun _ hk => Option.some.inj hk⟩)
    (fun _ => kas_calm (calm_fireDfd _ _)) (fun _ => kas_calm (calm_fireDfd _ _)) (kas_calm (calm_setProto _ _ fun _ => rfl))

theorem kas_connectionLost (p : Nat) (r : Err) : KAS none (connectionLost p r) :=
  kas_closed.connectionLost r (kas_loopStop p) (kas_setProto _ _ fun _ _ _ => .of_none rfl) (fun _ => kas_calm (calm_cancelTimer _))
    (kas_setProto _ _ fun _ _ h => h.congr rfl rfl) (kas_calm (calm_doConnectionLost p r)) (kas_setProto _ _ fun _ _ h => h.congr rfl rfl)
    (kas_calm (calm_callLater _ _ fun _ => calm_closed.ok))

/-- **every operation keeps `KAInv`** -- no `Env`, no `WInv` -/
theorem ka_step (w : World) (h : KAInv w) (op : Op) : KAInv (step w op) :=
  step_of_calm Calm.ka (fun _ _ => kas_setProto _ _ fun _ _ _ => .of_none rfl)
    (fun p a => kas_closed.apiConnect a (fun _ => kas_calm (calm_emit _)) (kas_calm (calm_setProto _ _ fun _ => rfl))
      (fun _ _ => kas_calm (calm_emit _)) (kas_setProto _ _ fun _ _ h => h.congr rfl rfl) fun _ _ =>
        kas_calm (calm_callLater _ _ fun _ => calm_newDfd fun _ =>
          calm_closed.seq (calm_mod fun _ => ⟨rfl, rfl, rfl, rfl⟩) (calm_closed.seq (calm_setProto _ _ fun _ => rfl) (calm_emit _))))
    (fun p s rc => kas_closed.guarded p 6 (kas_handleCONNACK p s rc))
    (fun p => kas_closed.handlePINGRESP (fun _ => kas_calm (calm_cancelTimer _)) (kas_setProto _ _ fun _ _ h => h.congr rfl rfl))
    kas_connectionLost
    (fun q => by
      simp only [runTimer]
      exact kas_restart fun _ _ h => h.map _ (fun _ => rfl) (fun _ _ _ ht => nomatch ht) fun hx => absurd rfl hx)
    (fun q => kas_closed.seq (kas_setProto _ _ fun _ _ h => h.congr rfl rfl) (kas_calm (calm_emit _)))
    w h op

theorem KAInv.init (profile : Nat) : KAInv (World.init profile) :=
  .of (fun _ _ h => nomatch h) fun _ _ h => nomatch h

theorem run_ka (ops : List Op) (w : World) (h : KAInv w) : KAInv (run w ops) :=
  run_invariant KAInv (fun w op h => ka_step w h op) ops w h

end Mqtt
