import MqttVerif.Spec.Wire
import MqttVerif.Proofs.Pdu
/-
  Refinement of the transcription of pdu.py to the reference wire format (C02): the standard's fixed header is
  the `frame` of Pdu.lean. Towards the broker, the normal form of each encoder is the standard's encoding of the
  same packet; from the broker, the standard's encoding is a frame, and the decoders are known on frames.
  Here are the pieces of the standard's format in terms of `enc16`, `encS`, `encodeLength` and `frame`; the theorems
  are put together from them in Props/C02.lean.
-/
namespace Mqtt
open Spec

theorem u16_eq (n : Nat) : Spec.u16 n = enc16 n := by
  simp [Spec.u16, enc16, shr8, and255]

theorem str_eq (s : String) (h : s.utf8ByteSize ≤ 65535) : Spec.str s = some (encS s) := by
  simp only [Spec.str, utf8_length, h, ↓reduceIte, u16_eq, encS_eq]

theorem str_some {s : String} {bs : Bytes} (h : Spec.str s = some bs) : s.utf8ByteSize ≤ 65535 := by
  simp only [Spec.str, utf8_length] at h
  by_cases hl : s.utf8ByteSize ≤ 65535
  · exact hl
  · rw [if_neg hl] at h
    cases h

theorem remLen_eq (n : Nat) (h : n < 268435456) : Spec.remLen n = some (encodeLength n) := by
  have e1 : n / 128 / 128 = n / 16384 := Nat.div_div_eq_div_mul n 128 128
  have e2 : n / 16384 / 128 = n / 2097152 := Nat.div_div_eq_div_mul n 16384 128
  have c2 : n / 128 < 128 ↔ n < 16384 := Nat.div_lt_iff_lt_mul (by decide)
  have c3 : n / 16384 < 128 ↔ n < 2097152 := Nat.div_lt_iff_lt_mul (by decide)
  have c4 : n / 2097152 < 128 := (Nat.div_lt_iff_lt_mul (by decide)).2 h
  unfold Spec.remLen
  rw [encodeLength_eq n, encodeLength_eq (n / 128), encodeLength_eq (n / 128 / 128),
    encodeLength_eq (n / 128 / 128 / 128)]
  simp only [c2, c3, c4, e1, e2, h, ↓reduceIte]
  by_cases h1 : n < 128
  · rw [if_pos h1, if_pos h1]
  rw [if_neg h1, if_neg h1]
  by_cases h2 : n < 16384
  · rw [if_pos h2, if_pos h2]
  rw [if_neg h2, if_neg h2]
  by_cases h3 : n < 2097152
  · rw [if_pos h3, if_pos h3]
  · rw [if_neg h3, if_neg h3]

theorem fixedHeader_eq (type flags : Nat) (body : Bytes) (h : body.length < 268435456) :
    Spec.fixedHeader type flags body = some (frame (type * 16 + flags) body) := by
  unfold Spec.fixedHeader
  rw [remLen_eq _ h]
  rfl

theorem fixedHeader_some {t f : Nat} {body bs : Bytes} (h : Spec.fixedHeader t f body = some bs) :
    bs = frame (t * 16 + f) body := by
  by_cases hl : body.length < 268435456
  · rw [fixedHeader_eq _ _ _ hl] at h
    exact (Option.some.inj h).symm
  · have : Spec.remLen body.length = none := by
      unfold Spec.remLen
      rw [if_neg (by omega), if_neg (by omega), if_neg (by omega), if_neg hl]
    unfold Spec.fixedHeader at h
    rw [this] at h
    cases h

/-- the shape of most cases of `Spec.encode` -/
theorem guarded_frame {c : Prop} [Decidable c] {t f : Nat} {body bs : Bytes}
    (h : (if c then Spec.fixedHeader t f body else none) = some bs) : c ∧ bs = frame (t * 16 + f) body := by
  by_cases hc : c
  · rw [if_pos hc] at h
    exact ⟨hc, fixedHeader_some h⟩
  · rw [if_neg hc] at h
    cases h

def specVer (v : Version) : Spec.Ver := if v.level == 3 then .v31 else .v311

theorem validId_of (m : Nat) (h1 : 1 ≤ m) (h2 : m < 65536) : Spec.validId m = true := by
  simp [Spec.validId]
  omega

/-! ## identifier-only packets: PUBACK, PUBREC, PUBREL, PUBCOMP, UNSUBACK -/

theorem encodeAck_refines (t fl m : Nat) (h1 : 1 ≤ m) (h2 : m < 65536) :
    ∃ bs, encodeAck (t * 16 + fl) (m : Int) = .ok bs ∧
      (if Spec.validId m then Spec.fixedHeader t fl (Spec.u16 m) else none) = some bs := by
  refine ⟨_, encodeAck_eq _ m h2, ?_⟩
  rw [if_pos (validId_of m h1 h2), fixedHeader_eq t fl (Spec.u16 m) (show 2 < 268435456 by decide), u16_eq]

theorem ack_frame {t f i : Nat} {bs : Bytes}
    (h : (if Spec.validId i then Spec.fixedHeader t f (Spec.u16 i) else none) = some bs) :
    bs = frame (t * 16 + f) (enc16 i) := by
  rw [← u16_eq]
  exact (guarded_frame h).2

/-! ## PUBLISH -/

/-- the standard's view of a PUBLISH request -/
def PublishF.abs (f : PublishF) : Spec.Packet :=
  .publish f.dup f.qos f.retain f.topic (f.msgId.map Int.toNat) f.payload.bytes

/-! ### what cannot be represented raises ValueError or TypeError instead of emitting bytes -/

def Post {α} (P : Err → Prop) (Q : α → Prop) : Except Err α → Prop
  | .error e => P e
  | .ok a => Q a

theorem Post.bind {α β} {P : Err → Prop} {Q₁ : α → Prop} {Q : β → Prop} {x : Except Err α} {k : α → Except Err β}
    (hx : Post P Q₁ x) (hk : ∀ a, Q₁ a → Post P Q (k a)) : Post P Q (x >>= k) := by
  cases x with
  | error e => exact hx
  | ok a => exact hk a hx

theorem Post.err {α} {P : Err → Prop} {Q : α → Prop} {x : Except Err α} {e : Err} (h : Post P Q x) (he : x = .error e) :
    P e := by
  rw [he] at h
  exact h

theorem byte_err {x : Nat} {e : Err} (h : byte x = .error e) : e = .value := by
  unfold byte at h
  split at h <;> cases h
  rfl

theorem encodeString_err {s : String} {e : Err} (h : encodeString s = .error e) : e = .value := by
  rw [encodeString_eq] at h
  split at h <;> cases h
  rfl

theorem encode16_err {i : Int} {e : Err} (h : encode16Int i = .error e) : e = .value := by
  unfold encode16Int at h
  split at h <;> cases h
  rfl

theorem Post.of_err {α} {x : Except Err α} (h : ∀ e, x = .error e → e = .value) :
    Post (·.isValueOrType = true) (fun _ => True) x := by
  cases x with
  | error e => exact h e rfl ▸ rfl
  | ok a => exact trivial

theorem PublishF.encode_post (f : PublishF) :
    Post (·.isValueOrType = true) (fun _ => f.payload ≠ .other) f.encode := by
  have rest : ∀ (h0 : Nat) (vh : Bytes), Post (·.isValueOrType = true) (fun _ => f.payload ≠ .other) (do
      let payload ← f.payload.toBytes
      if vh.length + payload.length > 268435455 then .error .value
      else pure ([h0] ++ encodeLength (vh.length + payload.length) ++ vh ++ payload)) := by
    intro h0 vh
    refine .bind (Q₁ := fun _ => f.payload ≠ .other) ?_ fun pl hpl => ?_
    · cases f.payload
      · exact Payload.noConfusion
      · exact Payload.noConfusion
      · exact rfl
    · split
      · exact rfl
      · exact hpl
  unfold PublishF.encode
  split
  · refine .bind (.of_err fun _ => byte_err) fun h _ => .bind (.of_err fun _ => encodeString_err) fun t _ => ?_
    split
    · exact rfl
    · exact .bind (.of_err fun _ => encode16_err) fun m _ => rest _ _
  · exact .bind (.of_err fun _ => encodeString_err) fun t _ => rest _ _

theorem PublishF.encode_err {f : PublishF} {e : Err} (h : f.encode = .error e) : e.isValueOrType = true :=
  (PublishF.encode_post f).err h

/-! ## SUBSCRIBE / UNSUBSCRIBE -/

def FiltersQValid (ts : List (String × Nat)) : Prop := ∀ p ∈ ts, p.1.utf8ByteSize ≤ 65535 ∧ p.2 < 3

theorem encTopicsQ_refines (ts : List (String × Nat)) (h : FiltersQValid ts) :
    ∃ bs, encTopicsQ ts = .ok bs ∧ Spec.filtersQ ts = some bs := by
  induction ts with
  | nil => exact ⟨[], rfl, rfl⟩
  | cons p t ih =>
    obtain ⟨s, q⟩ := p
    have hp := h (s, q) (by simp)
    obtain ⟨bs, he, hs⟩ := ih (fun p hp => h p (by simp [hp]))
    refine ⟨encS s ++ [q] ++ bs, ?_, ?_⟩
    · unfold encTopicsQ byte
      have : q < 256 := by omega
      simp [encodeString_ok s hp.1, this, he]
    · unfold Spec.filtersQ
      have : q ≤ 2 := by omega
      simp [str_eq s hp.1, hs, this]

theorem encTopics_refines (ts : List String) (h : TopicsValid ts) :
    ∃ bs, encTopics ts = .ok bs ∧ Spec.filters ts = some bs := by
  induction ts with
  | nil => exact ⟨[], rfl, rfl⟩
  | cons s t ih =>
    have hp := h s (by simp)
    obtain ⟨bs, he, hs⟩ := ih (fun p hp => h p (by simp [hp]))
    refine ⟨encS s ++ bs, ?_, ?_⟩
    · unfold encTopics
      simp [encodeString_ok s hp, he]
    · unfold Spec.filters
      simp [str_eq s hp, hs]

/-- the standard's SUBSCRIBE and UNSUBSCRIBE at first transmission: flags 0010, identifier, the filters `F` -/
theorem idPayload_refines (v : Spec.Ver) (t m : Nat) (h1 : 1 ≤ m) (hm : m < 65536) {F : Option Bytes} {tb : Bytes}
    (hF : F = some tb) {ne : Bool} (hne : ne = true) (hl : 2 + tb.length < 268435456) :
    (do let f ← Spec.ackFlags v false
        let body ← F
        if Spec.validId m && ne then Spec.fixedHeader t f (Spec.u16 m ++ body) else none) =
      some (frame (t * 16 + 2) (enc16 m ++ tb)) := by
  have : Spec.ackFlags v false = some 2 := by
    cases v <;> rfl
  rw [this, hF, hne, validId_of m h1 hm, u16_eq]
  simp only [bind, Option.bind, Bool.and_self, ↓reduceIte]
  exact fixedHeader_eq t 2 (enc16 m ++ tb) (by rw [List.length_append]; exact hl)

/-! ## CONNECT -/

/-- the standard's view of a CONNECT request -/
def ConnectF.abs (f : ConnectF) : Spec.Packet :=
  .connect f.clientId f.keepalive.toNat f.cleanStart
    (match f.willTopic, f.willMessage with
     | some t, some m => some ⟨t, m, f.willQoS, f.willRetain⟩
     | _, _ => none)
    f.username (f.password.map utf8)

theorem optStr_eq (o : Option String) (h : optSize o ≤ 65535) : Spec.optStr o = some (encOpt o) := by
  cases o with
  | none => rfl
  | some s => exact str_eq s h

theorem optBin_eq (o : Option String) (h : optSize o ≤ 65535) : Spec.optBin (o.map utf8) = some (encOpt o) := by
  cases o with
  | none => rfl
  | some s =>
    have := str_eq s h
    rwa [Spec.str] at this

theorem specVer_facts (v : Version) (h : v = v31 ∨ v = v311) :
    Spec.protocolName (specVer v) = v.tag ∧ Spec.protocolLevel (specVer v) = v.level := by
  rcases h with rfl | rfl <;> decide

/-! ## SUBACK -/

theorem granted_of_codes (codes : List Nat) (h : codes.all (fun c => c ≤ 2 || c == 128) = true) :
    codes.map (fun b => (b &&& 0x7F, (b &&& 0x80) == 0x80)) = codes.map (fun c => if c = 128 then (0, true) else (c, false)) := by
  induction codes with
  | nil => rfl
  | cons c t ih =>
    simp only [List.all_cons, Bool.and_eq_true, Bool.or_eq_true, decide_eq_true_eq, beq_iff_eq] at h
    simp only [List.map_cons, ih h.2]
    congr 1
    rcases h.1 with hc | hc
    · have : c = 0 ∨ c = 1 ∨ c = 2 := by omega
      rcases this with rfl | rfl | rfl <;> decide
    · subst hc
      decide

end Mqtt
