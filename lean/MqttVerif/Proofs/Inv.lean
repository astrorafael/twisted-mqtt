import MqttVerif.Proofs.Sent
/-
  The master invariant `WInv` of the session model and the environment assumptions `Env`.

  To add a clause: add the field to `WInvX` here and to the one of `Store` / `Alarms` / `Net` (Trans.lean) that reads the same
  components, with its line in `WInvX.store/.alarms/.net` and `WInvX.of_parts`; the generic steps of that part (`Store.mono`,
  `Store.extend`, `Alarms.extend`, `Net.congr`, ...) and `WInv.init` then ask for it, and so do the two proofs that rebuild the record
  field by field (`buildProtocol_inv`, `connStart_inv` in Api.lean) and, for a clause about one protocol object, `ProtoLocal` with
  `protoStep_inv` (ProtoT.lean).
-/
namespace Mqtt

def Pending (w : World) (t : Nat) (k : TKind) : Prop :=
  ∃ tm, w.timers.get? t = some tm ∧ tm.status = .pending ∧ tm.kind = k

/-- the packet identifier an entry occupies (0: none, a held-back QoS 0 message) -/
def idOf (w : World) (e : Ent) : Nat := if e.box = .queue then (w.req e.rid).msgId else e.key

/-- `x`: a protocol that is in the middle of handling CONNACK or connectionLost (until the handler has finished the
    `connected` clause is suspended for it, and `subArmed` lets requests of its address be without timer); `none`
    between operations -/
structure WInvX (x : Option Nat) (w : World) : Prop where
  nodup : w.ents.Nodup
  ridFresh : ∀ e ∈ w.ents, e.rid < w.nextReq
  ridUnique : ∀ e1 ∈ w.ents, ∀ e2 ∈ w.ents, e1.rid = e2.rid → e1 = e2
  /-- C17: no two unfinished requests of the factory share a packet identifier -/
  idUnique : ∀ e1 ∈ w.ents, ∀ e2 ∈ w.ents, idOf w e1 = idOf w e2 → idOf w e1 ≠ 0 → e1 = e2
  keyId : ∀ e ∈ w.ents, e.box ≠ .queue → (w.req e.rid).msgId = e.key ∧ e.key ≠ 0
  queueNoAlarm : ∀ e ∈ w.ents, e.box = .queue → (w.req e.rid).alarm = none
  idCounter : w.nextId ≤ 65535
  timerFresh : ∀ t tm, w.timers.get? t = some tm → t < w.nextTimer
  firedFresh : ∀ d ∈ w.fired, d < w.nextDfd
  crFresh : ∀ cr c, w.connReqs.get? cr = some c → cr < w.nextCR
  protoFresh : ∀ p pr, w.protos.get? p = some pr → p < w.nextProto
  /- Deferreds of unfinished requests: present, unfired, one owner each (C05/C07/C11) -/
  dfdFresh : ∀ e ∈ w.ents, ∀ d, (w.req e.rid).dfd = some d → d < w.nextDfd ∧ d ∉ w.fired
  dfdSome : ∀ e ∈ w.ents, (w.req e.rid).msgId ≠ 0 → (w.req e.rid).dfd ≠ none
  dfdInj : ∀ e1 ∈ w.ents, ∀ e2 ∈ w.ents, ∀ d, (w.req e1.rid).dfd = some d → (w.req e2.rid).dfd = some d → e1 = e2
  /- retry timers (C13/C08): the alarm of an in-flight request is pending and is its own; no other retry timer exists -/
  alarm : ∀ e ∈ w.ents, ∀ t, (w.req e.rid).alarm = some t →
      e.box ≠ .queue ∧ ∃ p pr, Pending w t (.retry p e.rid) ∧ w.protos.get? p = some pr ∧ pr.addr = e.addr
  noStale : ∀ t p rid, Pending w t (.retry p rid) → ∃ e ∈ w.ents, e.rid = rid ∧ (w.req rid).alarm = some t
  connected : ∀ p pr, w.protos.get? p = some pr → some p ≠ x → pr.lost = false → pr.state = .connected →
      ∀ e ∈ w.ents, e.addr = pr.addr → e.box ≠ .queue → (w.req e.rid).alarm ≠ none
  oneLive : ∀ p q pr qr, w.protos.get? p = some pr → w.protos.get? q = some qr → pr.lost = false → qr.lost = false →
      pr.addr = qr.addr → p = q
  lostIdle : ∀ p pr, w.protos.get? p = some pr → pr.lost = true →
      pr.state = .idle ∧ pr.pingTimer = none ∧ pr.pingAlarm = none
  /- keepalive (C15) -/
  pingAlarm : ∀ p pr t, w.protos.get? p = some pr → pr.pingAlarm = some t → Pending w t (.pingAlarm p)
  pingTimer : ∀ p pr l, w.protos.get? p = some pr → pr.pingTimer = some l →
      l.running = true ∧ pr.state = .connected ∧ pr.pingKeepalive ≠ none ∧ ∀ t, l.call = some t → Pending w t (.pingLoop p)
  pingAlarmOwned : ∀ t p, Pending w t (.pingAlarm p) → ∃ pr, w.protos.get? p = some pr ∧ pr.pingAlarm = some t
  pingLoopOwned : ∀ t p, Pending w t (.pingLoop p) → ∃ pr l, w.protos.get? p = some pr ∧ pr.pingTimer = some l ∧ l.call = some t
  /- handshake (C04) -/
  /-- a connecting protocol waits for a handshake whose Deferred has not fired and whose timeout is running
      (unless the timeout has already failed it: `dfd = none`) -/
  connecting : ∀ p pr, w.protos.get? p = some pr → pr.state = .connecting →
      ∃ cr c, pr.connReq = some cr ∧ w.connReqs.get? cr = some c ∧ c.proto = p ∧
        ∀ d, c.dfd = some d → d ∉ w.fired ∧ Pending w c.alarm (.connack cr)
  connReq : ∀ cr c d, w.connReqs.get? cr = some c → c.dfd = some d → d ∉ w.fired →
      d < w.nextDfd ∧ ∀ e ∈ w.ents, (w.req e.rid).dfd ≠ some d
  connReqInj : ∀ cr cr' c c' d, w.connReqs.get? cr = some c → w.connReqs.get? cr' = some c' →
      c.dfd = some d → c'.dfd = some d → cr = cr'
  connReqFresh : ∀ cr c d, w.connReqs.get? cr = some c → c.dfd = some d → d < w.nextDfd
  /-- a running handshake timeout belongs to an unfired handshake whose protocol is still connecting (or lost) -/
  connackOwned : ∀ t cr, Pending w t (.connack cr) →
      ∃ c d, w.connReqs.get? cr = some c ∧ c.dfd = some d ∧ d ∉ w.fired ∧ c.alarm = t ∧
        ∃ pr, w.protos.get? c.proto = some pr ∧ (pr.lost = true ∨ (pr.state = .connecting ∧ pr.connReq = some cr))
  /-- C13/C18: a pending retry timer belongs to a protocol whose loss has not been reported -/
  retryLive : ∀ t p rid, Pending w t (.retry p rid) → ∃ pr, w.protos.get? p = some pr ∧ pr.lost = false
  connReqLive : ∀ p pr cr c, w.protos.get? p = some pr → pr.connReq = some cr → w.connReqs.get? cr = some c →
      c.proto = p ∧ ∀ d, c.dfd = some d → d ∉ w.fired
  connReqRef : ∀ p pr cr, w.protos.get? p = some pr → pr.connReq = some cr → cr < w.nextCR
  /-- SUBSCRIBE/UNSUBSCRIBE requests exist only with a running retry timer (they never survive a connection) -/
  subArmed : ∀ e ∈ w.ents, (e.box = .sub ∨ e.box = .unsub) → (w.req e.rid).alarm = none →
      ∃ p pr, x = some p ∧ w.protos.get? p = some pr ∧ pr.addr = e.addr
  /-- the factory was made for one of the three profiles (subscriber, publisher, both) -/
  profileOk : w.profile = 1 ∨ w.profile = 2 ∨ w.profile = 3
  bufOk : ∀ p pr, w.protos.get? p = some pr → Bytes.WF pr.buffer

abbrev WInv (w : World) : Prop := WInvX none w

/-- some packet identifier is free (fewer than 65535 requests are unfinished) -/
def FreeId (w : World) : Prop := ∃ j, 1 ≤ j ∧ j ≤ 65535 ∧ idInUse w j = false

def Exists (w : World) (p : Nat) : Prop := ∃ pr, w.protos.get? p = some pr
def Live (w : World) (p : Nat) : Prop := ∃ pr, w.protos.get? p = some pr ∧ pr.lost = false

/-- the environment assumptions under which every theorem about histories is stated -/
def Env (w : World) : Op → Prop
  | .build a => ∀ p pr, w.protos.get? p = some pr → pr.addr = a → pr.lost = true     -- one live protocol per address
  | .recv p d => Live w p ∧ ∀ b ∈ d, b < 256          -- bytes; nothing is received after the loss is reported
  | .lost p _ => Live w p                              -- connectionLost at most once per protocol
  | .connect p _ => Live w p                           -- no connect() on a protocol whose loss has been reported
  | .fire _ => True
  | .setid _ => False                                  -- harness-only operation (moves the identifier counter)
  | .jit v => 0 ≤ v ∧ v < 1
  | .sethandlers p _ => Exists w p
  | .disconnect p => Exists w p
  | .publish p _ _ _ _ => Exists w p ∧ FreeId w
  | .subscribe p _ _ => Exists w p ∧ FreeId w
  | .unsubscribe p _ => Exists w p ∧ FreeId w
  | .setwin p _ => Exists w p
  | .settimeout p _ => Exists w p
  | .setbw p _ _ => Exists w p

theorem WInv.init (profile : Nat) (hp : profile = 1 ∨ profile = 2 ∨ profile = 3) : WInv (World.init profile) := by
  constructor <;> first | exact hp | simp [World.init, Pending, Dict.get?]

theorem WInvX.weaken {x : Option Nat} {w : World} (h : WInv w) : WInvX x w :=
  { h with connected := fun p pr hp _ => h.connected p pr hp (by simp),
           subArmed := fun e he hb ha => by obtain ⟨p, pr, hx, _⟩ := h.subArmed e he hb ha; cases hx }

/-- `connected` and `subArmed` are reinstated once they hold again for `p` -/
theorem WInvX.close {p : Nat} {w : World} (h : WInvX (some p) w)
    (hp : ∀ pr, w.protos.get? p = some pr → pr.lost = false → pr.state = .connected →
      ∀ e ∈ w.ents, e.addr = pr.addr → e.box ≠ .queue → (w.req e.rid).alarm ≠ none)
    (hsu : ∀ pr, w.protos.get? p = some pr → ∀ e ∈ w.ents, (e.box = .sub ∨ e.box = .unsub) → e.addr = pr.addr →
      (w.req e.rid).alarm ≠ none) : WInv w := by
  have hc : ∀ q qr, w.protos.get? q = some qr → some q ≠ (none : Option Nat) → qr.lost = false → qr.state = .connected →
      ∀ e ∈ w.ents, e.addr = qr.addr → e.box ≠ .queue → (w.req e.rid).alarm ≠ none := by
    intro q qr hq _ hl hs
    by_cases hqp : q = p
    · subst hqp; exact hp qr hq hl hs
    · exact h.connected q qr hq (by simp [hqp]) hl hs
  have hsub : ∀ e ∈ w.ents, (e.box = .sub ∨ e.box = .unsub) → (w.req e.rid).alarm = none →
      ∃ p pr, (none : Option Nat) = some p ∧ w.protos.get? p = some pr ∧ pr.addr = e.addr := by
    intro e he hb ha
    obtain ⟨q, qr, hx, hq, hqa⟩ := h.subArmed e he hb ha
    injection hx with hx; subst hx
    exact absurd ha (hsu qr hq e he hb hqa.symm)
  exact { h with connected := hc, subArmed := hsub }

end Mqtt
