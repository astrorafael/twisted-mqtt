import MqttVerif.Model.Framing
import MqttVerif.Proofs.Pdu
/-
  C03 (pure part): stream reassembly does not depend on how the byte stream is cut into chunks.
  One iteration is `firstPacket`, which cuts off a complete `frame` and nothing else; the loop follows.
-/
namespace Mqtt

/-- the two tests on the continuation bit used by `_accumulatePacket` and `decodeLength` agree: for any Python
    int the masked value is 0 or 0x80 -/
theorem cont_tests (b : Nat) : ((b &&& 0x80) != 0x80) = !((b &&& 0x80) != 0) := by
  have h1 : (b &&& 128) % 2 ^ 7 = b % 2 ^ 7 &&& 128 % 2 ^ 7 := Nat.and_mod_two_pow
  have h2 : b &&& 128 ≤ 128 := Nat.and_le_right
  rw [show 128 % 2 ^ 7 = 0 from rfl, Nat.and_zero] at h1
  have : b &&& 128 = 0 ∨ b &&& 128 = 128 := by omega
  rcases this with h | h <;> simp [h]

theorem scanLen_le (l : Bytes) : scanLen l ≤ l.length := by
  induction l with
  | nil => simp [scanLen]
  | cons b r ih => simp only [scanLen]; split <;> simp <;> omega

theorem scanLen_append (l c : Bytes) (h : scanLen l < l.length) : scanLen (l ++ c) = scanLen l := by
  induction l with
  | nil => simp [scanLen] at h
  | cons b r ih =>
    simp only [List.cons_append, scanLen]
    split
    · rename_i hb
      simp only [scanLen, hb, ↓reduceIte, List.length_cons] at h
      rw [ih (by omega)]
    · rfl

theorem decodeLengthAux_append (l c : Bytes) (v m : Nat) (h : scanLen l < l.length) :
    decodeLengthAux v m (l ++ c) = decodeLengthAux v m l := by
  induction l generalizing v m with
  | nil => simp [scanLen] at h
  | cons b r ih =>
    simp only [List.cons_append, decodeLengthAux]
    rw [cont_tests]
    by_cases hb : (b &&& 0x80 != 0) = true
    · simp only [hb, Bool.not_true, Bool.false_eq_true, ↓reduceIte]
      simp only [scanLen, hb, ↓reduceIte, List.length_cons] at h
      exact ih _ _ (by omega)
    · simp [hb]

/-- after its own loop, the test "We still haven't got all of the remaining length field" of
    `_accumulatePacket` never holds: the loop stops at the end of the buffer or at a byte without the bit -/
theorem contAt_scanLen (buf : Bytes) : contAt buf (1 + scanLen (buf.drop 1)) = false := by
  have key : ∀ l : Bytes, (match l[scanLen l]? with | some b => b &&& 0x80 != 0 | none => false) = false := by
    intro l
    induction l with
    | nil => rfl
    | cons b r ih =>
      by_cases hb : (b &&& 0x80 != 0) = true
      · simpa [scanLen, hb] using ih
      · simp [scanLen, hb]
  cases buf with
  | nil => rfl
  | cons h l =>
    unfold contAt
    rw [Nat.add_comm, List.getElem?_cons_succ]
    exact key l

/-- so one iteration only compares the length announced with the length present -/
theorem firstPacket_eq (buf : Bytes) :
    firstPacket buf =
      if decodeLength (buf.drop 1) + (1 + scanLen (buf.drop 1)) + 1 ≤ buf.length then
        some (buf.take (decodeLength (buf.drop 1) + (1 + scanLen (buf.drop 1)) + 1),
              buf.drop (decodeLength (buf.drop 1) + (1 + scanLen (buf.drop 1)) + 1))
      else none := by
  unfold firstPacket
  simp only [contAt_scanLen, Bool.false_eq_true, ↓reduceIte, ge_iff_le]
  by_cases h2 : buf.length < 2
  · rw [if_pos h2, if_neg (by omega)]
  · rw [if_neg h2]

theorem firstPacket_some (buf p r : Bytes) (h : firstPacket buf = some (p, r)) :
    buf = p ++ r ∧ 2 ≤ p.length := by
  rw [firstPacket_eq] at h
  split at h
  · cases h
    refine ⟨(List.take_append_drop _ _).symm, ?_⟩
    rw [List.length_take]
    omega
  · cases h

theorem firstPacket_rest (buf p r : Bytes) (h : firstPacket buf = some (p, r)) : r.length + 2 ≤ buf.length := by
  obtain ⟨hb, hp⟩ := firstPacket_some buf p r h
  rw [hb, List.length_append]
  omega

theorem firstPacket_append (buf c p r : Bytes) (h : firstPacket buf = some (p, r)) :
    firstPacket (buf ++ c) = some (p, r ++ c) := by
  rw [firstPacket_eq] at h ⊢
  generalize hk : decodeLength (buf.drop 1) + (1 + scanLen (buf.drop 1)) + 1 = k at h
  by_cases hlen : k ≤ buf.length
  · rw [if_pos hlen] at h
    cases h
    have hscan : scanLen (buf.drop 1) < (buf.drop 1).length := by
      rw [List.length_drop]
      omega
    have hd1 : (buf ++ c).drop 1 = buf.drop 1 ++ c := List.drop_append_of_le_length (by omega)
    have hdec : decodeLength (buf.drop 1 ++ c) = decodeLength (buf.drop 1) := decodeLengthAux_append _ _ _ _ hscan
    rw [hd1, scanLen_append _ _ hscan, hdec, hk, if_pos (by rw [List.length_append]; omega),
      List.take_append_of_le_length hlen, List.drop_append_of_le_length hlen]
  · rw [if_neg hlen] at h
    cases h

theorem splitAux_fuel (f g : Nat) (buf : Bytes) (hf : buf.length ≤ f) (hg : buf.length ≤ g) :
    splitAux f buf = splitAux g buf := by
  induction f generalizing g buf with
  | zero =>
    obtain rfl : buf = [] := List.eq_nil_of_length_eq_zero (Nat.le_zero.1 hf)
    cases g <;> rfl
  | succ f ih =>
    cases g with
    | zero =>
      obtain rfl : buf = [] := List.eq_nil_of_length_eq_zero (Nat.le_zero.1 hg)
      rfl
    | succ g =>
      simp only [splitAux]
      cases hfp : firstPacket buf with
      | none => rfl
      | some pr =>
        obtain ⟨p, r⟩ := pr
        have := firstPacket_rest buf p r hfp
        simp only
        rw [ih g r (by omega) (by omega)]

theorem splitPackets_none (buf : Bytes) (h : firstPacket buf = none) : splitPackets buf = ([], buf) := by
  unfold splitPackets
  cases buf.length <;> simp [splitAux, h]

theorem splitPackets_some (buf p r : Bytes) (h : firstPacket buf = some (p, r)) :
    splitPackets buf = (p :: (splitPackets r).1, (splitPackets r).2) := by
  have hr := firstPacket_rest buf p r h
  obtain ⟨k, hk⟩ : ∃ k, buf.length = k + 1 := ⟨buf.length - 1, by omega⟩
  unfold splitPackets
  rw [hk]
  simp only [splitAux, h]
  rw [splitAux_fuel k r.length r (by omega) (Nat.le_refl _)]

theorem splitPackets_append (a b : Bytes) :
    splitPackets (a ++ b) =
      ((splitPackets a).1 ++ (splitPackets ((splitPackets a).2 ++ b)).1,
       (splitPackets ((splitPackets a).2 ++ b)).2) := by
  generalize hn : a.length = n
  induction n using Nat.strongRecOn generalizing a with
  | ind n ih =>
    cases hfp : firstPacket a with
    | none =>
      rw [splitPackets_none a hfp]
      rfl
    | some pr =>
      obtain ⟨p, r⟩ := pr
      have hra := firstPacket_rest a p r hfp
      rw [splitPackets_some _ p _ (firstPacket_append a b p r hfp), splitPackets_some a p r hfp,
        ih r.length (by omega) r rfl]
      rfl

theorem splitAux_residual (f : Nat) (buf : Bytes) (h : buf.length ≤ f) :
    firstPacket (splitAux f buf).2 = none := by
  induction f generalizing buf with
  | zero =>
    obtain rfl : buf = [] := List.eq_nil_of_length_eq_zero (Nat.le_zero.1 h)
    rfl
  | succ f ih =>
    simp only [splitAux]
    cases hfp : firstPacket buf with
    | none => exact hfp
    | some pr =>
      obtain ⟨p, r⟩ := pr
      have := firstPacket_rest buf p r hfp
      exact ih r (by omega)

theorem splitPackets_residual (buf : Bytes) : firstPacket (splitPackets buf).2 = none :=
  splitAux_residual _ _ (Nat.le_refl _)

/-- state of the reassembly: bytes still buffered, packets delivered so far (in order) -/
def feed (st : Bytes × List Bytes) (chunk : Bytes) : Bytes × List Bytes :=
  let res := splitPackets (st.1 ++ chunk)
  (res.2, st.2 ++ res.1)

/-- C03 (pure): for ANY bytes and ANY way of cutting them into chunks, the packets delivered and
    the bytes left buffered are those of delivering the concatenation in one piece. (`buf` holds
    no complete packet: the state `_accumulatePacket` always leaves behind.) -/
theorem feed_chunks (buf : Bytes) (done : List Bytes) (chunks : List Bytes) (hres : firstPacket buf = none) :
    chunks.foldl feed (buf, done) = feed (buf, done) chunks.flatten := by
  induction chunks generalizing buf done with
  | nil =>
    simp only [List.foldl_nil, List.flatten_nil, feed, List.append_nil, splitPackets_none buf hres]
  | cons c cs ih =>
    simp only [List.foldl_cons, List.flatten_cons]
    have hr : firstPacket (feed (buf, done) c).1 = none := splitPackets_residual _
    rw [ih _ _ hr]
    simp only [feed]
    rw [← List.append_assoc, splitPackets_append (buf ++ c) cs.flatten]
    simp

/-- and the packets delivered, concatenated with the bytes still buffered, are the bytes received:
    nothing dropped, duplicated, merged, truncated or reordered -/
theorem splitAux_concat (f : Nat) (buf : Bytes) :
    (splitAux f buf).1.flatten ++ (splitAux f buf).2 = buf := by
  induction f generalizing buf with
  | zero => simp [splitAux]
  | succ f ih =>
    simp only [splitAux]
    cases hfp : firstPacket buf with
    | none => simp
    | some pr =>
      obtain ⟨p, r⟩ := pr
      obtain ⟨hb, _⟩ := firstPacket_some buf p r hfp
      simp only [List.flatten_cons, List.append_assoc, ih r]
      exact hb.symm

theorem splitPackets_concat (buf : Bytes) : (splitPackets buf).1.flatten ++ (splitPackets buf).2 = buf :=
  splitAux_concat _ _

theorem scanLen_encodeLength (n : Nat) (rest : Bytes) :
    scanLen (encodeLength n ++ rest) + 1 = (encodeLength n).length := by
  induction n using Nat.strongRecOn with
  | ind n ih =>
    rw [encodeLength_eq]
    by_cases h : n < 128
    · simp [h, scanLen, and128_small n h]
    · simp only [h, ↓reduceIte, List.cons_append, scanLen, and128_big _ (Nat.mod_lt n (by decide)), List.length_cons]
      rw [← ih (n / 128) (by omega)]
      rfl

theorem firstPacket_frame (h : Nat) (b rest : Bytes) : firstPacket (frame h b ++ rest) = some (frame h b, rest) := by
  have hdrop : (frame h b ++ rest).drop 1 = encodeLength b.length ++ (b ++ rest) := by
    simp [frame]
  have hs := scanLen_encodeLength b.length (b ++ rest)
  have hl : (frame h b).length = 1 + (encodeLength b.length).length + b.length := by
    simp only [frame, List.length_append, List.length_singleton]
  have hk : b.length + (1 + scanLen (encodeLength b.length ++ (b ++ rest))) + 1 = (frame h b).length := by
    omega
  rw [firstPacket_eq, hdrop, decodeLength_encodeLength, hk, if_pos (by simp), List.take_left, List.drop_left]

end Mqtt
